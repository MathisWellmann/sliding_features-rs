import SF.Lemmas.History
/-
  What a chain's outer core is fed: exactly values that the stand-alone inner view reported after some non-empty prefix of
  the raw input.  Hence any predicate that holds of everything the inner view ever reports on a given input holds of
  everything the outer core is fed, and any guarantee of the outer core for such inputs carries over to the chain
  ("a chain built from stable views is stable").
-/
namespace SF.ChainBound
variable {α : Type} [FloatLike α]

/-- the values the inner view `A`, started in state `a`, reports after the non-empty prefixes of `xs` -/
def Reported (A : View α) (a : A.σ) (xs : List α) (y : α) : Prop :=
  ∃ pre, pre ≠ [] ∧ pre <+: xs ∧ ∃ a', A.run a pre = .ok a' ∧ A.last a' = .ok (some y)

omit [FloatLike α] in
theorem reported_of_trace {A : View α} {a : A.σ} {xs : List α} {os : List (Option α)} {y : α}
    (h : A.trace a xs = .ok os) (hy : some y ∈ os) : Reported A a xs y := by
  induction xs generalizing a os with
  | nil => cases h; cases hy
  | cons x xs ih =>
    obtain ⟨a', hu, o, hl, r, hr, rfl⟩ := View.trace_cons_eq_ok.mp h
    rcases List.mem_cons.mp hy with rfl | hy
    · exact ⟨[x], List.cons_ne_nil _ _, List.cons_prefix_cons.mpr ⟨rfl, List.nil_prefix⟩, a',
        bind_eq_ok.mpr ⟨a', hu, rfl⟩, hl⟩
    · obtain ⟨pre, -, hp, a'', hr', hl'⟩ := ih hr hy
      exact ⟨x :: pre, List.cons_ne_nil _ _, List.cons_prefix_cons.mpr ⟨rfl, hp⟩, a'', bind_eq_ok.mpr ⟨a', hu, hr'⟩, hl'⟩

/-- after any run of a chain the core component is the core run alone on a list of values each of which the stand-alone
inner view reported after some prefix of the raw input -/
theorem wrap_run_delivered (A : View α) (B : Core α) (a : A.σ) (b : B.σ) (xs : List α)
    (hx : AllFinite xs) (s : A.σ × B.σ) (h : (wrap A B).run (a, b) xs = .ok s) :
    ∃ ys, B.run b ys = .ok s.2 ∧ ∀ y ∈ ys, Reported A a xs y := by
  obtain ⟨os, hos, -, -, hb⟩ := (wrap_run_eq_ok hx).mp h
  exact ⟨_, hb, fun y hy => reported_of_trace hos (by simpa using hy)⟩

/-- **guarantees compose along a chain**: if every value the stand-alone inner view reports on (prefixes of) `xs` satisfies
`P`, and the outer core, fed any values satisfying `P`, only reports values satisfying `Q`, then the chain only reports
values satisfying `Q` on `xs` -/
theorem chain_guarantee (A : View α) (B : Core α) (P Q : α → Prop) (xs : List α) (hx : AllFinite xs)
    (hA : ∀ y, Reported A A.init xs y → P y)
    (hB : ∀ ys : List α, (∀ y ∈ ys, P y) → ∀ v, B.outAfter ys = .ok (some v) → Q v)
    (s : A.σ × B.σ) (hs : (wrap A B).run (A.init, B.init) xs = .ok s) (v : α) (hv : (wrap A B).last s = .ok (some v)) :
    Q v := by
  obtain ⟨ys, h1, h2⟩ := wrap_run_delivered A B A.init B.init xs hx s hs
  exact hB ys (fun y hy => hA y (h2 y hy)) v (by rw [Core.outAfter, h1]; exact hv)

end SF.ChainBound
