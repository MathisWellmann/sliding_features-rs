import SF.Lemmas.Field
import SF.Model.Window
/- Rsi: the incrementally maintained avg_gain / avg_loss are G/N and L/N over the N most recent changes. -/
namespace SF.Rsi
open Spec

/-! ### the window of changes -/
section
variable {α : Type} [Field α]

/-- successive differences of a list, the first against `p` -/
def diffs (p : α) : List α → List α
  | [] => []
  | x :: r => (x - p) :: diffs x r

@[simp] theorem diffs_length (p : α) (l : List α) : (diffs p l).length = l.length := by
  induction l generalizing p with
  | nil => rfl
  | cons x r ih => simp [diffs, ih]

theorem diffs_snoc (p : α) (l : List α) (x : α) :
    diffs p (l ++ [x]) = diffs p l ++ [x - (l.getLast?).getD p] := by
  induction l generalizing p with
  | nil => simp [diffs]
  | cons y r ih => simp [diffs, ih, List.getLast?_cons]

theorem changes_eq_diffs (x0 : α) (r : List α) : changes (x0 :: r) = diffs x0 (x0 :: r) := by
  simp only [changes, diffs, nat_eq, Nat.cast_zero, sub_self, List.cons.injEq, true_and]
  induction r generalizing x0 with
  | nil => simp [diffs]
  | cons y r ih => simp only [List.zip_cons_cons, List.map_cons, diffs, List.cons.injEq, true_and]; exact ih y

/-- the change brought by a new value: against the previous value, 0 for the very first -/
theorem changes_snoc (xs : List α) (x : α) : changes (xs ++ [x]) = changes xs ++ [x - (xs.getLast?).getD x] := by
  cases xs with
  | nil => simp [changes]
  | cons x0 r => rw [List.cons_append, changes_eq_diffs, changes_eq_diffs, ← List.cons_append, diffs_snoc]; simp [List.getLast?_cons]

theorem diffs_drop (p : α) (l : List α) (k : Nat) (h : k ≤ l.length) :
    (diffs p l).drop k = diffs ((p :: l)[k]'(by simp; omega)) (l.drop k) := by
  induction l generalizing p k with
  | nil => simp [diffs]
  | cons x r ih =>
    cases k with
    | zero => rfl
    | succ k => simpa [diffs] using ih x k (by simpa using h)

/-- the reference against which the oldest change of the window is measured: the value just before the window (the first
value while every value so far is in the window) -/
def ref (N : Nat) (xs : List α) : α := (lastN (N + 1) xs).headD 0

/-- **the window of changes is the successive differences of the window of values**, the first against `ref` -/
theorem lastN_changes (N : Nat) (xs : List α) : lastN N (changes xs) = diffs (ref N xs) (lastN N xs) := by
  cases xs with
  | nil => simp [changes, diffs, lastN]
  | cons x0 r =>
    rw [changes_eq_diffs, lastN, diffs_length, diffs_drop _ _ _ (Nat.sub_le _ _), ref, lastN, lastN]
    congr 1
    by_cases h : (x0 :: r).length ≤ N
    · simp only [Nat.sub_eq_zero_of_le h, Nat.sub_eq_zero_of_le (Nat.le_succ_of_le h)]; rfl
    · have e : (x0 :: r).length - N = (x0 :: r).length - (N + 1) + 1 := by omega
      simp only [e, List.getElem_cons_succ, List.headD_eq_head?_getD, List.head?_drop]
      rw [List.getElem?_eq_getElem (by omega)]; rfl

/-- an accumulator: `Σ f` over the window of changes -/
def acc (N : Nat) (f : α → α) (xs : List α) : α := sumL ((lastN N (changes xs)).map f)

theorem acc_snoc (N : Nat) (hN : 0 < N) (f : α → α) (xs : List α) (x : α) :
    acc N f (xs ++ [x]) = sumL ((lastN (N - 1) (changes xs)).map f) + f (x - (xs.getLast?).getD x) := by
  rw [acc, changes_snoc, lastN_snoc N hN]; simp

theorem ref_snoc (N : Nat) (xs : List α) (x : α) : ref N (xs ++ [x]) = (lastN N xs ++ [x]).headD 0 := by
  rw [ref, lastN_snoc (N + 1) (by omega), Nat.add_sub_cancel]

/-- while the window fills the reference stays the first value -/
theorem ref_snoc_lt (N : Nat) (xs : List α) (x : α) (hx : xs ≠ []) (hlt : xs.length < N) : ref N (xs ++ [x]) = ref N xs := by
  obtain ⟨y, r, rfl⟩ := List.exists_cons_of_ne_nil hx
  rw [ref_snoc, lastN_of_le _ _ hlt.le, ref, lastN_of_le _ _ (by omega)]; rfl

end

section
variable {α : Type} [Field α] [LinearOrder α] [IsStrictOrderedRing α] [FloatLike α] [ExactScalar α]
set_option linter.unusedSectionVars false
theorem changes_length (xs : List α) : (changes xs).length = xs.length := by
  cases xs with
  | nil => rfl
  | cons x0 r => rw [changes_eq_diffs]; simp
end

variable {α : Type} [Field α] [LinearOrder α]

/-! ### gains and losses -/
/-- the gain and the loss in a change (MyRSI adds these up as they are, Rsi divided by N) -/
def gp (d : α) : α := if 0 < d then d else 0
def lp (d : α) : α := if 0 < d then 0 else -d

theorem gp_eq_max (d : α) : gp d = max d 0 := by
  unfold gp
  split
  · next h => exact (max_eq_left h.le).symm
  · next h => exact (max_eq_right (not_lt.1 h)).symm

theorem gp_nonneg (d : α) : 0 ≤ gp d := gp_eq_max d ▸ le_max_right d 0

theorem gains_eq (N : Nat) (xs : List α) : Spec.gains N xs = sumL ((lastN N (changes xs)).map gp) := by
  simp only [Spec.gains, nat_eq, Nat.cast_zero]; rfl
theorem losses_eq (N : Nat) (xs : List α) : Spec.losses N xs = sumL ((lastN N (changes xs)).map lp) := by
  simp only [Spec.losses, nat_eq, Nat.cast_zero]; rfl

theorem rsi_of_le (N : Nat) (xs : List α) (hne : xs ≠ []) (h : N ≤ xs.length) :
    Spec.rsi N xs = some (if losses N xs = 0 then 100 else 100 * gains N xs / (gains N xs + losses N xs)) := by
  simp [Spec.rsi, hne, Nat.not_lt.mpr h, apply_ite some]

def gpart (N : Nat) (d : α) : α := gp d / (N : α)
def lpart (N : Nat) (d : α) : α := lp d / (N : α)

/-! ### the update as a composition of pure stages -/
def reset (s : RsiState α) (v : α) : RsiState α :=
  if s.q.isEmpty then { s with oldRef := v, lastVal := v } else s

def evict (N : Nat) (s : RsiState α) : RsiState α :=
  match s.q with
  | [] => s
  | old :: rest =>
    let change := old - s.oldRef
    if 0 < change then { s with oldRef := old, q := rest, avgGain := s.avgGain - change / (N : α) }
    else { s with oldRef := old, q := rest, avgLoss := s.avgLoss - absv change / (N : α) }

def push (N : Nat) (s : RsiState α) (v : α) : RsiState α :=
  let change := v - s.lastVal
  if 0 < change then { s with q := s.q ++ [v], lastVal := v, avgGain := s.avgGain + change / (N : α) }
  else { s with q := s.q ++ [v], lastVal := v, avgLoss := s.avgLoss + absv change / (N : α) }

def emit (N : Nat) (s : RsiState α) : RsiState α :=
  if s.q.length < N then s
  else if s.avgLoss = 0 then { s with out := some 100 }
  else { s with out := some (100 - 100 / (1 + s.avgGain / s.avgLoss)) }

/-- `push` and `evict` touch both accumulators, one of them by 0: no case split on the sign of the change is needed
to follow them -/
theorem push_eq (N : Nat) (s : RsiState α) (v : α) :
    push N s v = { s with q := s.q ++ [v], lastVal := v, avgGain := s.avgGain + gpart N (v - s.lastVal),
                          avgLoss := s.avgLoss + lpart N (v - s.lastVal) } := by
  by_cases h : 0 < v - s.lastVal
  · simp only [push, gpart, lpart, gp, lp, h, if_true, zero_div, add_zero]
  · simp only [push, gpart, lpart, gp, lp, h, if_false, zero_div, add_zero, absv_of_not_pos h]

theorem evict_cons (N : Nat) (s : RsiState α) (old : α) (rest : List α) (h : s.q = old :: rest) :
    evict N s = { s with oldRef := old, q := rest, avgGain := s.avgGain - gpart N (old - s.oldRef),
                         avgLoss := s.avgLoss - lpart N (old - s.oldRef) } := by
  by_cases hc : 0 < old - s.oldRef
  · simp only [evict, h, gpart, lpart, gp, lp, hc, if_true, zero_div, sub_zero]
  · simp only [evict, h, gpart, lpart, gp, lp, hc, if_false, zero_div, sub_zero, absv_of_not_pos hc]

variable [IsStrictOrderedRing α]

/-- a loss is a gain of the negated change -/
theorem lp_eq_gp_neg : (lp : α → α) = fun d => gp (-d) := by
  funext d
  unfold lp gp
  rcases lt_trichotomy d 0 with h | h | h <;> simp [h, h.not_gt]

theorem gp_mul (a d : α) (ha : 0 ≤ a) : gp (a * d) = a * gp d := by
  rw [gp_eq_max, gp_eq_max, mul_max_of_nonneg _ _ ha, mul_zero]

theorem lp_nonneg (d : α) : 0 ≤ lp d := by rw [lp_eq_gp_neg]; exact gp_nonneg (-d)

theorem gains_nonneg (N : Nat) (xs : List α) : 0 ≤ Spec.gains N xs :=
  gains_eq N xs ▸ sumL_map_nonneg _ _ fun d _ => gp_nonneg d
theorem losses_nonneg (N : Nat) (xs : List α) : 0 ≤ Spec.losses N xs :=
  losses_eq N xs ▸ sumL_map_nonneg _ _ fun d _ => lp_nonneg d

theorem gpart_nonneg (N : Nat) (d : α) : 0 ≤ gpart N d := div_nonneg (gp_nonneg d) (Nat.cast_nonneg N)
theorem lpart_nonneg (N : Nat) (d : α) : 0 ≤ lpart N d := div_nonneg (lp_nonneg d) (Nat.cast_nonneg N)

/-- the output formula: 100 − 100/(1 + (G/N)/(L/N)) = 100·G/(G+L) -/
theorem rs_eq_ratio (N : Nat) (hN : 0 < N) (G L : α) (hG : 0 ≤ G) (hL : 0 ≤ L) (hL0 : L ≠ 0) :
    (100 : α) - 100 / (1 + (G / (N : α)) / (L / (N : α))) = 100 * G / (G + L) := by
  have hN0 : (N : α) ≠ 0 := by exact_mod_cast hN.ne'
  have hs : G + L ≠ 0 := (add_pos_of_nonneg_of_pos hG (lt_of_le_of_ne hL (Ne.symm hL0))).ne'
  rw [div_div_div_cancel_right₀ hN0]
  field_simp
  ring

/-- the state after the history `xs` -/
def st (N : Nat) (xs : List α) : RsiState α :=
  { avgGain := acc N (gpart N) xs, avgLoss := acc N (lpart N) xs, oldRef := ref N xs, lastVal := (xs.getLast?).getD 0,
    q := lastN N xs, out := Spec.rsi N xs }

/-- the last stage publishes the spec's value: 100 − 100/(1 + (G/N)/(L/N)) = 100·G/(G+L) -/
theorem emit_st (N : Nat) (hN : 0 < N) (xs : List α) (x : α) :
    emit N { st N (xs ++ [x]) with out := Spec.rsi N xs } = st N (xs ++ [x]) := by
  have hN0 : (N : α) ≠ 0 := by exact_mod_cast hN.ne'
  have hG : acc N (gpart N) (xs ++ [x]) = Spec.gains N (xs ++ [x]) / (N : α) := by rw [gains_eq]; exact sumL_map_div gp (N : α) _
  have hL : acc N (lpart N) (xs ++ [x]) = Spec.losses N (xs ++ [x]) / (N : α) := by rw [losses_eq]; exact sumL_map_div lp (N : α) _
  unfold emit
  split
  · next hlt =>
    have h1 : xs.length + 1 < N := by simpa [st, lastN_length] using hlt
    simp [st, Spec.rsi, h1, Nat.lt_of_succ_lt h1]
  · next hlt =>
    have hle : N ≤ xs.length + 1 := by simpa [st, lastN_length] using hlt
    have hL0 : acc N (lpart N) (xs ++ [x]) = 0 ↔ Spec.losses N (xs ++ [x]) = 0 := by rw [hL, div_eq_zero_iff]; simp [hN0]
    have hs := rsi_of_le N (xs ++ [x]) (by simp) (by simpa using hle)
    split
    · next hz => simp only [st]; rw [hs, if_pos (hL0.mp hz)]
    · next hz =>
      simp only [st]
      rw [hs, if_neg (mt hL0.mpr hz), hG, hL, rs_eq_ratio N hN _ _ (gains_nonneg N _) (losses_nonneg N _) (mt hL0.mpr hz)]

variable [FloatLike α] [ExactScalar α]

/-! ### one update of an accumulator -/
/-- while the window fills, the accumulator gains `f` of the new change … -/
theorem acc_snoc_lt (N : Nat) (hN : 0 < N) (f : α → α) (xs : List α) (x : α) (h : xs.length < N) :
    acc N f (xs ++ [x]) = acc N f xs + f (x - (xs.getLast?).getD x) := by
  obtain ⟨-, h1, h2⟩ := (lastN_cases N hN (changes xs)).resolve_right fun ⟨_, hc, _⟩ => by rw [changes_length] at hc; omega
  rw [acc_snoc N hN, h2, acc, h1]

/-- … and once it is full first loses `f` of the oldest change `old − ref`, staying non-negative when `f` is -/
theorem acc_snoc_full (N : Nat) (hN : 0 < N) (f : α → α) (hf : ∀ d, 0 ≤ f d) (xs : List α) (x old : α) (rest : List α)
    (hle : N ≤ xs.length) (hw : lastN N xs = old :: rest) :
    acc N f (xs ++ [x]) = acc N f xs - f (old - ref N xs) + f (x - (xs.getLast?).getD x) ∧
      0 ≤ acc N f xs - f (old - ref N xs) := by
  obtain ⟨c, -, hc, -⟩ := (lastN_cases N hN (changes xs)).resolve_left fun hc => by have := hc.1; rw [changes_length] at this; omega
  have e : c = old - ref N xs := by
    have := lastN_changes N xs
    rw [hc, hw] at this
    exact (List.cons.inj this).1
  rw [acc_snoc N hN, acc, hc, List.map_cons, sumL_cons, e]
  exact ⟨by ring, by simpa using sumL_map_nonneg f _ fun d _ => hf d⟩

set_option linter.unusedSectionVars false in
/-- The update is `emit ∘ push ∘ (evict if the window is full) ∘ reset`: the clamp `.max(0)` after a removal is the identity
whenever the running averages stay non-negative — which they do in exact arithmetic, being sums of non-negative parts
(`acc_snoc_full`; the clamp only matters for floating-point residue) -/
theorem step_eq (N : Nat) (hN : 0 < N) (s : RsiState α) (v : α)
    (hnn : N ≤ (reset s v).q.length → 0 ≤ (evict N (reset s v)).avgGain ∧ 0 ≤ (evict N (reset s v)).avgLoss) :
    (rsiCore N).step s v = .ok (emit N (push N (if N ≤ (reset s v).q.length then evict N (reset s v) else reset s v) v)) := by
  simp only [rsiCore, nat_eq, Nat.cast_zero, Nat.cast_one, Nat.cast_ofNat]
  rw [show (if s.q.isEmpty = true then ({ s with oldRef := v, lastVal := v } : RsiState α) else s) = reset s v from rfl]
  revert hnn; generalize reset s v = s0; intro hnn
  -- both sides are now `if`-trees over the same tests; `.ok` is pushed to their leaves
  by_cases hfull : N ≤ s0.q.length
  · obtain ⟨old, rest, hq⟩ := List.exists_cons_of_length_pos (hN.trans_le hfull)
    have hn := hnn hfull
    simp only [evict, hq] at hn
    rw [hq] at hfull
    -- `hn` makes the clamps disappear (`maxv_of_nonneg`); the rest is the same tests on both sides
    by_cases h1 : 0 < old - s0.oldRef
    · -- a gain leaves: `avgGain` is clamped
      simp only [h1, if_true] at hn
      by_cases h2 : 0 < v - s0.lastVal <;>
        simp only [hfull, hq, evict, push, emit, h1, h2, if_true, if_false, front_cons, ok_bind, pure_eq_ok, List.tail_cons,
          maxv_of_nonneg _ hn.1, assertFinite_exact, apply_ite (Except.ok (ε := Err)), beq_iff_eq]
    · -- a loss leaves: `avgLoss` is clamped
      simp only [h1, if_false] at hn
      by_cases h2 : 0 < v - s0.lastVal <;>
        simp only [hfull, hq, evict, push, emit, h1, h2, if_true, if_false, front_cons, ok_bind, pure_eq_ok, List.tail_cons,
          maxv_of_nonneg _ hn.2, assertFinite_exact, apply_ite (Except.ok (ε := Err)), beq_iff_eq]
  · by_cases h2 : 0 < v - s0.lastVal <;>
      simp only [hfull, push, emit, h2, if_true, if_false, ok_bind, pure_eq_ok, assertFinite_exact,
        apply_ite (Except.ok (ε := Err)), beq_iff_eq]

theorem tracks (N : Nat) (hN : 0 < N) : (rsiCore (α := α) N).Tracks (st N) where
  init := by
    -- `init` is restated so that it alone is unfolded, not the whole core
    show st N [] = { avgGain := nat 0, avgLoss := nat 0, oldRef := nat 0, lastVal := nat 0, q := [], out := none }
    simp [st, acc, ref, changes, Spec.rsi]
  step xs x := by
    -- reset / evict / push give the new state but for its output, and the accumulators stay non-negative through a removal
    have key : push N (if N ≤ (reset (st N xs) x).q.length then evict N (reset (st N xs) x) else reset (st N xs) x) x
          = { st N (xs ++ [x]) with out := Spec.rsi N xs } ∧
        (N ≤ (reset (st N xs) x).q.length →
          0 ≤ (evict N (reset (st N xs) x)).avgGain ∧ 0 ≤ (evict N (reset (st N xs) x)).avgLoss) := by
      rw [push_eq]
      rcases eq_or_ne xs [] with rfl | hx
      · -- the very first value resets both references to itself; its change is 0
        have ha : ∀ f : α → α, acc N f [x] = acc N f [] + f 0 := fun f => by simpa using acc_snoc_lt N hN f [] x hN
        have hrf : ref N [x] = x := by simpa using ref_snoc N [] x
        simp [reset, st, ha, hrf, lastN_of_le N [x] hN, Nat.not_le.mpr hN]
      · have hlast : (xs.getLast?).getD x = (xs.getLast?).getD 0 := by rw [List.getLast?_eq_some_getLast hx]; rfl
        have hr : reset (st N xs) x = st N xs := by
          simp [reset, st, (lastN_ne_nil hN).mpr (List.length_pos_of_ne_nil hx)]
        rw [hr]
        rcases lastN_cases N hN xs with ⟨hlt, hw, hw'⟩ | ⟨old, hle, hw, hlen⟩
        · -- the window is still filling
          have hnf : ¬ N ≤ (st N xs).q.length := by simp only [st, hw]; omega
          rw [if_neg hnf]
          refine ⟨?_, fun h => absurd h hnf⟩
          simp only [st, acc_snoc_lt N hN _ xs x hlt, hlast, ref_snoc_lt N xs x hx hlt, lastN_snoc N hN, hw', hw,
            List.getLast?_concat, Option.getD_some]
        · -- a full window: the oldest value leaves, and with it the oldest change
          obtain ⟨hg, hgn⟩ := acc_snoc_full N hN (gpart N) (gpart_nonneg N) xs x old _ hle hw
          obtain ⟨hl, hln⟩ := acc_snoc_full N hN (lpart N) (lpart_nonneg N) xs x old _ hle hw
          have hfull : N ≤ (st N xs).q.length := by simp [st, hw, hlen]
          rw [if_pos hfull, evict_cons N _ old _ (show (st N xs).q = old :: lastN (N - 1) xs from hw)]
          refine ⟨?_, fun _ => ⟨hgn, hln⟩⟩
          simp only [st, hg, hl, hlast, ref_snoc, hw, lastN_snoc N hN, List.getLast?_concat, Option.getD_some, List.cons_append,
            List.headD_cons]
    rw [show (rsiCore N).step (st N xs) x = _ from step_eq N hN (st N xs) x key.2, key.1, emit_st N hN]

/-- **Rsi = 100·G/(G+L) (100 when L = 0) over the N most recent changes, from the N-th value on** -/
theorem outAfter_eq (N : Nat) (hN : 0 < N) (xs : List α) :
    (rsiCore (α := α) N).outAfter xs = .ok (Spec.rsi N xs) := (tracks N hN).outAfter xs

end SF.Rsi
