import SF.Lemmas.Roc
/-
  Roc forgets everything older than N + 1 values, unless it is holding its previous output because its base is 0.
-/
namespace SF.RocSuffix
open Spec Roc
set_option linter.unusedSectionVars false
variable {α : Type} [Field α] [LinearOrder α] [IsStrictOrderedRing α] [FloatLike α] [ExactScalar α] [Transc α]

/-- **two histories that agree on their last N + 1 values give the same Roc, unless the base x(t−N) is 0** (then the view
is explicitly holding its previous output).  Spec level: the state machine equals `Spec.roc` by `C02.roc_eq`. -/
theorem roc_suffix (N : Nat) (xs ys : List α) (hx : N + 1 ≤ xs.length) (hy : N + 1 ≤ ys.length)
    (h : lastN (N + 1) xs = lastN (N + 1) ys) (hbase : (lastN (N + 1) xs).headD 0 ≠ 0) :
    Spec.roc N xs = Spec.roc N ys := by
  have key : ∀ zs : List α, N + 1 ≤ zs.length → (lastN (N + 1) zs).headD 0 ≠ 0 →
      Spec.roc N zs = some (100 * ((lastN (N + 1) zs).getLast?.getD 0 - (lastN (N + 1) zs).headD 0) / (lastN (N + 1) zs).headD 0) := by
    intro zs hz hb
    rcases List.eq_nil_or_concat zs with rfl | ⟨r, z, rfl⟩
    · simp at hz
    · rw [List.concat_eq_append] at *
      have hd : ∀ d, (lastN (N + 1) (r ++ [z])).headD d = (lastN (N + 1) (r ++ [z])).headD 0 := fun d => by
        rw [lastN_snoc _ (by omega)]; cases lastN (N + 1 - 1) r <;> rfl
      rw [roc_snoc, hd, if_neg hb, getLast_lastN _ (by omega)]; simp
  rw [key xs hx hbase, key ys hy (h ▸ hbase), h]

end SF.RocSuffix
