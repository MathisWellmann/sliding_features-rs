import SF.Lemmas.Real
import SF.Lemmas.SuperSmoother
import SF.Lemmas.Stable
import SF.Lemmas.SpecFacts
import Mathlib.Analysis.Complex.Basic
/- Two-pole section with complex-conjugate poles a·e^{±iθ}, 0 ≤ a < 1: bounded input ⇒ bounded output with a bound that
   does not depend on the stream length; and fading memory: the functional `Vc` of the deviation from a level c0 contracts by
   (1+a)/2 per step (`level_tail_decay`); `V` is the case c0 = 0.  Applied to the SuperSmoother recursion. -/
namespace SF.DcGain
open ComplexConjugate

/-- Lyapunov functional of the deviation of a smoother state from the level c0.  (Named for its use, the response to a constant
input; it is defined in this file because `TwoPole.V` is its case c0 = 0 and the step lemmas below are proved for it.) -/
noncomputable def Vc (p : ℂ) (a c0 : ℝ) (st : List ℝ × ℝ) : ℝ :=
  ‖((st.1.headD 0 - c0 : ℝ) : ℂ)‖
    + 2 * a / (1 - a) * ‖((st.1.headD 0 - c0 : ℝ) : ℂ) - conj p * ((st.1.tail.headD 0 - c0 : ℝ) : ℂ)‖

theorem Vc_nonneg (p : ℂ) (a c0 : ℝ) (ha0 : 0 ≤ a) (ha1 : a < 1) (st : List ℝ × ℝ) : 0 ≤ Vc p a c0 st :=
  add_nonneg (norm_nonneg _)
    (mul_nonneg (div_nonneg (mul_nonneg zero_le_two ha0) (sub_nonneg.2 ha1.le)) (norm_nonneg _))

end SF.DcGain

namespace SF.TwoPole
open SF.Spec Complex ComplexConjugate DcGain

/-- the real two-pole recursion `f' = (p + p̄)·f1 − (p·p̄)·f2 + u`, written through its complex pole `p`, is two one-pole sections
in cascade: w = f − p̄·f₋₁ obeys w' = p·w + u, and f' = p̄·f1 + w'.  In sizes: -/
theorem conj_sizes (p : ℂ) (a : ℝ) (ha : ‖p‖ ≤ a) (f1 f2 u f' : ℝ)
    (hrec : (f' : ℂ) = (p + conj p) * f1 - (p * conj p) * f2 + u) :
    ‖(f' : ℂ) - conj p * f1‖ ≤ a * ‖(f1 : ℂ) - conj p * f2‖ + |u| ∧ ‖(f' : ℂ)‖ ≤ a * ‖(f1 : ℂ)‖ + ‖(f' : ℂ) - conj p * f1‖ := by
  constructor
  · rw [show (f' : ℂ) - conj p * f1 = p * ((f1 : ℂ) - conj p * f2) + u by rw [hrec]; ring]
    refine (norm_add_le _ _).trans (add_le_add ?_ (by rw [Complex.norm_real, Real.norm_eq_abs]))
    rw [norm_mul]
    exact mul_le_mul_of_nonneg_right ha (norm_nonneg _)
  · have h := norm_add_le (conj p * f1) ((f' : ℂ) - conj p * f1)
    rw [add_sub_cancel, norm_mul, Complex.norm_conj] at h
    exact h.trans (add_le_add (mul_le_mul_of_nonneg_right ha (norm_nonneg _)) le_rfl)

/-- the pole a·e^{iθ} of the smoother: p + conj p = 2a·cos θ, p·conj p = a², ‖p‖ = a -/
noncomputable def pole (a θ : ℝ) : ℂ := (a : ℂ) * Complex.exp (θ * I)

theorem pole_norm (a θ : ℝ) (ha : 0 ≤ a) : ‖pole a θ‖ = a := by
  simp [pole, Complex.norm_exp_ofReal_mul_I, abs_of_nonneg ha]

theorem pole_add_conj (a θ : ℝ) : pole a θ + conj (pole a θ) = ((2 * a * Real.cos θ : ℝ) : ℂ) := by
  rw [Complex.add_conj, pole, Complex.re_ofReal_mul, Complex.exp_ofReal_mul_I_re, mul_assoc]

theorem pole_mul_conj (a θ : ℝ) (ha : 0 ≤ a) : pole a θ * conj (pole a θ) = ((a * a : ℝ) : ℂ) := by
  rw [Complex.mul_conj, Complex.normSq_eq_norm_sq, pole_norm a θ ha]
  push_cast
  ring

/-- **SuperSmoother-type recursion is BIBO stable with a length-independent bound.**  For coefficients
b1 = 2a·cos θ, c3 = −a² with 0 ≤ a < 1 and any c1: if every input satisfies |x| ≤ B (and the pad too), every value of
the filter sequence satisfies |f| ≤ |c1|·B/(1−a)², however long the stream. -/
theorem smoothSeq_bibo (c : Coef ℝ) (a θ : ℝ) (ha0 : 0 ≤ a) (ha1 : a < 1)
    (hb1 : c.b1 = 2 * a * Real.cos θ) (hc3 : c.c3 = -(a * a)) (B : ℝ) (pad : ℝ) (hpad : |pad| ≤ B)
    (xs : List ℝ) (hx : ∀ x ∈ xs, |x| ≤ B) :
    ∀ f ∈ smoothSeq c pad xs, |f| ≤ |c.c1| * B / (1 - a) ^ 2 := by
  have h1a : 0 < 1 - a := by linarith
  have hG0 : 0 ≤ |c.c1| * B / (1 - a) := div_nonneg (mul_nonneg (abs_nonneg _) ((abs_nonneg _).trans hpad)) h1a.le
  have hK0 : 0 ≤ |c.c1| * B / (1 - a) / (1 - a) := div_nonneg hG0 h1a.le
  rw [pow_two, ← div_div]
  -- invariant over the fold, with U = |c1|·B the size of the input term: all values within U/(1−a)², the first section
  -- w = f − p̄·f₋₁ within U/(1−a), the previous input within B
  refine (foldl_invariant (fun st : List ℝ × ℝ =>
      (∀ f ∈ st.1, |f| ≤ |c.c1| * B / (1 - a) / (1 - a)) ∧
      ‖((st.1.headD 0 : ℝ) : ℂ) - conj (pole a θ) * ((st.1.tail.headD 0 : ℝ) : ℂ)‖ ≤ |c.c1| * B / (1 - a) ∧ |st.2| ≤ B)
    xs (fun st x hxm ⟨hall, hg, hprev⟩ => ?_) _ (by simp [hG0, hpad])).1
  have hu : |c.c1 * (x + st.2) / 2| ≤ |c.c1| * B := by
    rw [abs_div, abs_mul, abs_two, mul_div_assoc]
    exact mul_le_mul_of_nonneg_left (by linarith only [abs_add_le x st.2, hx x hxm, hprev]) (abs_nonneg _)
  obtain ⟨h1, h2⟩ := conj_sizes (pole a θ) a (pole_norm a θ ha0).le (st.1.headD 0) (st.1.tail.headD 0)
    (c.c1 * (x + st.2) / 2) (c.c1 * (x + st.2) / 2 + c.b1 * st.1.headD 0 + c.c3 * st.1.tail.headD 0)
    (by rw [pole_add_conj, pole_mul_conj a θ ha0, hb1, hc3]; push_cast; ring)
  obtain ⟨hg', hk'⟩ := Stable.twoStage_bound a ha0 ha1 h1 h2 hu hg
    (by rw [Complex.norm_real]; exact Stable.headD_bound hK0 _ hall)
  rw [Complex.norm_real] at hk'
  simp only [nat_eq, Nat.cast_zero, Nat.cast_ofNat]
  exact ⟨List.forall_mem_cons.2 ⟨hk', hall⟩, hg', hx x hxm⟩

/-- `conj_sizes` through `Stable.twoStage`: the functional ‖f‖ + λ‖f − p̄·f₋₁‖, λ = 2a/(1−a), contracts by (1+a)/2 up to (1+λ)·|u| -/
theorem inhomogeneous_step (p : ℂ) (a : ℝ) (ha : ‖p‖ ≤ a) (ha0 : 0 ≤ a) (ha1 : a < 1)
    (f1 f2 u f' : ℝ) (hrec : (f' : ℂ) = (p + conj p) * f1 - (p * conj p) * f2 + u) :
    ‖(f' : ℂ)‖ + 2 * a / (1 - a) * ‖(f' : ℂ) - conj p * f1‖
      ≤ (1 + a) / 2 * (‖(f1 : ℂ)‖ + 2 * a / (1 - a) * ‖(f1 : ℂ) - conj p * f2‖) + (1 + 2 * a / (1 - a)) * |u| :=
  have h := conj_sizes p a ha f1 f2 u f' hrec
  Stable.twoStage a ha0 ha1 (norm_nonneg _) h.1 h.2

/-- the Lyapunov functional of a fold state: `Vc` at the level 0 (`V_eq_Vc`) -/
noncomputable def V (p : ℂ) (a : ℝ) (st : List ℝ × ℝ) : ℝ :=
  ‖((st.1.headD 0 : ℝ) : ℂ)‖ + 2 * a / (1 - a) * ‖((st.1.headD 0 : ℝ) : ℂ) - conj p * ((st.1.tail.headD 0 : ℝ) : ℂ)‖

theorem abs_head_sub_le_Vc (p : ℂ) (a c0 : ℝ) (ha0 : 0 ≤ a) (ha1 : a < 1) (st : List ℝ × ℝ) :
    |st.1.headD 0 - c0| ≤ Vc p a c0 st := by
  have h1a : 0 < 1 - a := by linarith
  have : 0 ≤ 2 * a / (1 - a) * ‖((st.1.headD 0 - c0 : ℝ) : ℂ) - conj p * ((st.1.tail.headD 0 - c0 : ℝ) : ℂ)‖ :=
    mul_nonneg (div_nonneg (by linarith) h1a.le) (norm_nonneg _)
  simp only [Vc]; rw [Complex.norm_real, Real.norm_eq_abs]; linarith

theorem V_eq_Vc (p : ℂ) (a : ℝ) (st : List ℝ × ℝ) : V p a st = Vc p a 0 st := by simp [V, Vc]

theorem abs_head_le_V (p : ℂ) (a : ℝ) (ha0 : 0 ≤ a) (ha1 : a < 1) (st : List ℝ × ℝ) : |st.1.headD 0| ≤ V p a st := by
  simpa [V_eq_Vc] using abs_head_sub_le_Vc p a 0 ha0 ha1 st

/-- **one step of a two-pole smoother, measured from any level c0**: the deviations f − c0 obey the same recursion with the
input term reduced by (1 − b1 − c3)·c0, so their functional shrinks by (1+a)/2 up to the size of that term -/
theorem Vc_snoc (c : Coef ℝ) (a θ : ℝ) (ha0 : 0 ≤ a) (ha1 : a < 1) (hb1 : c.b1 = 2 * a * Real.cos θ) (hc3 : c.c3 = -(a * a))
    (pad c0 : ℝ) (xs : List ℝ) (x : ℝ) :
    Vc (pole a θ) a c0 (SS.foldState c pad (xs ++ [x])) ≤ (1 + a) / 2 * Vc (pole a θ) a c0 (SS.foldState c pad xs)
      + (1 + 2 * a / (1 - a)) * |c.c1 * (x + (SS.foldState c pad xs).2) / 2 - (1 - c.b1 - c.c3) * c0| := by
  rw [SS.foldState_snoc]
  simp only [Vc, List.headD_cons, List.tail_cons, nat_eq, Nat.cast_zero, Nat.cast_ofNat]
  refine inhomogeneous_step (pole a θ) a (pole_norm a θ ha0).le ha0 ha1 _ _ _ _ ?_
  rw [pole_add_conj, pole_mul_conj a θ ha0, hb1, hc3]; push_cast; ring

/-- the same at level 0, with the input term's size split off as `cascade_mean` takes it -/
theorem V_snoc (c : Coef ℝ) (a θ : ℝ) (ha0 : 0 ≤ a) (ha1 : a < 1) (hb1 : c.b1 = 2 * a * Real.cos θ) (hc3 : c.c3 = -(a * a))
    (pad : ℝ) (xs : List ℝ) (x : ℝ) :
    V (pole a θ) a (SS.foldState c pad (xs ++ [x])) ≤ (1 + a) / 2 * V (pole a θ) a (SS.foldState c pad xs)
      + (1 + 2 * a / (1 - a)) * |c.c1| * (|x + (SS.foldState c pad xs).2| / 2) := by
  have h := Vc_snoc c a θ ha0 ha1 hb1 hc3 pad 0 xs x
  rw [← V_eq_Vc, ← V_eq_Vc, mul_zero, sub_zero, abs_div, abs_mul, abs_two] at h
  rwa [mul_assoc, ← mul_div_assoc]

/-- **a level the recursion reproduces is approached geometrically once the input stays there** (c1·c0 = (1 − b1 − c3)·c0:
any level when the DC gain is 1, the level 0 always): after one step at c0, every further c0 multiplies the functional of
the deviation, which dominates |f − c0|, by ρ = (1+a)/2 < 1 -/
theorem level_tail_decay (c : Coef ℝ) (a θ : ℝ) (ha0 : 0 ≤ a) (ha1 : a < 1)
    (hb1 : c.b1 = 2 * a * Real.cos θ) (hc3 : c.c3 = -(a * a)) (pad c0 : ℝ) (hc1 : c.c1 * c0 = (1 - c.b1 - c.c3) * c0)
    (xs : List ℝ) (k : Nat) :
    Vc (pole a θ) a c0 (SS.foldState c pad (xs ++ [c0] ++ List.replicate k c0))
      ≤ ((1 + a) / 2) ^ k * Vc (pole a θ) a c0 (SS.foldState c pad (xs ++ [c0])) := by
  have step : ∀ k, Vc (pole a θ) a c0 (SS.foldState c pad (xs ++ [c0] ++ List.replicate (k + 1) c0))
      ≤ (1 + a) / 2 * Vc (pole a θ) a c0 (SS.foldState c pad (xs ++ [c0] ++ List.replicate k c0)) := fun k => by
    have h := Vc_snoc c a θ ha0 ha1 hb1 hc3 pad c0 (xs ++ [c0] ++ List.replicate k c0) c0
    have hprev : (SS.foldState c pad (xs ++ [c0] ++ List.replicate k c0)).2 = c0 := by
      rw [SS.prev_input, List.append_assoc, List.singleton_append, ← List.replicate_succ, List.getLast?_append,
        List.getLast?_replicate]
      simp
    rw [hprev, show c.c1 * (c0 + c0) / 2 - (1 - c.b1 - c.c3) * c0 = 0 by rw [← hc1]; ring, abs_zero, mul_zero, add_zero] at h
    rwa [List.replicate_succ', ← List.append_assoc]
  simpa using Stable.le_geom (u := fun k => Vc (pole a θ) a c0 (SS.foldState c pad (xs ++ [c0] ++ List.replicate k c0)))
    (by linarith) k fun i _ => step i

/-- **fading memory of the two-pole smoother**: once the input has been 0 for one step, every further zero input
multiplies the functional V (which dominates |f|) by ρ = (1+a)/2 < 1 -/
theorem zero_tail_decay (c : Coef ℝ) (a θ : ℝ) (ha0 : 0 ≤ a) (ha1 : a < 1)
    (hb1 : c.b1 = 2 * a * Real.cos θ) (hc3 : c.c3 = -(a * a)) (pad : ℝ) (xs : List ℝ) (k : Nat) :
    V (pole a θ) a (SS.foldState c pad (xs ++ [0] ++ List.replicate k 0))
      ≤ ((1 + a) / 2) ^ k * V (pole a θ) a (SS.foldState c pad (xs ++ [0])) := by
  simpa only [V_eq_Vc] using level_tail_decay c a θ ha0 ha1 hb1 hc3 pad 0 (by simp) xs k

end SF.TwoPole
