import SF.Lemmas.Field
import SF.Lemmas.Index
import SF.Lemmas.SpecFacts
import SF.Model.Window
/- NoiseEliminationTechnology: the (1-based, EasyLanguage-style) double loop visits every one of the n(n−1)/2 pairs of the
   window exactly once and moves the numerator by sgn0(newer − older): the numerator is Kendall's. -/
namespace SF.Net
open Spec
variable {α : Type}

variable [Field α] [LinearOrder α]

/-- the body of the inner loop -/
def inner (q : List α) (count : Nat) (num : α) (k : Nat) : M α := do
  let xc ← getIdx q (q.length - count)
  let xk ← getIdx q (q.length - k)
  let diff := xc - xk
  pure (if nat 0 < diff then num - nat 1 else if diff < nat 0 then num + nat 1 else num)

theorem netNum_def (q : List α) :
    netNum q = forRange 2 (q.length + 1) (nat 0 : α) (fun num count => forRange 1 count num (inner q count)) := rfl

/-- inner loop for a count that does not reach the oldest value: the same loop on the tail -/
theorem inner_tail (x : α) (rest : List α) (count : Nat) (hc : count ≤ rest.length) (num : α) :
    (List.range' 1 (count - 1)).foldlM (inner (x :: rest) count) num
      = (List.range' 1 (count - 1)).foldlM (inner rest count) num := by
  apply foldlM_congr
  intro b k hk
  have hk' := List.mem_range'_1.mp hk
  have e1 : (x :: rest).length - count = (rest.length - count) + 1 := by simp; omega
  have e2 : (x :: rest).length - k = (rest.length - k) + 1 := by simp; omega
  simp only [inner, e1, e2, getIdx_cons_succ]

section
set_option linter.unusedSectionVars false
variable [IsStrictOrderedRing α] [FloatLike α] [ExactScalar α]
theorem kendall_cons (x : α) (rest : List α) :
    kendallNum (x :: rest) = sumL (rest.map fun y => sgn0 (y - x)) + kendallNum rest := rfl
end

variable [IsStrictOrderedRing α]

/-- one pass of the inner loop's `if` moves the numerator by the sign of `b − a` -/
theorem bump_eq_add_sgn0 (a b num : α) :
    (if nat 0 < a - b then num - nat 1 else if a - b < nat 0 then num + nat 1 else num) = num + sgn0 (b - a) := by
  simp only [nat_eq, Nat.cast_zero, Nat.cast_one, sub_pos, sub_neg]
  rcases lt_trichotomy a b with h | h | h
  · rw [sgn0_of_pos _ (sub_pos.mpr h), if_neg (not_lt.mpr h.le), if_pos h]
  · subst h; simp [sgn0_zero]
  · rw [sgn0_of_neg _ (sub_neg.mpr h), if_pos h, sub_eq_add_neg]

/-- inner loop against the oldest value `x` of `x :: rest`: adds sgn0(y − x) for the `m` newest values y of `rest` -/
theorem inner_last (x : α) (rest : List α) (m : Nat) (hm : m ≤ rest.length) (num : α) :
    (List.range' 1 m).foldlM (inner (x :: rest) (rest.length + 1)) num
      = .ok (num + sumL ((rest.drop (rest.length - m)).map fun y => sgn0 (y - x))) := by
  induction m generalizing num with
  | zero => simp [pure_eq_ok]
  | succ m ih =>
    have hm' : m ≤ rest.length := by omega
    have hi : rest.length - (m + 1) < rest.length := by omega
    rw [List.range'_concat, List.foldlM_append, ih hm', Nat.one_mul]
    have hidx : (x :: rest).length - (1 + m) = (rest.length - (m + 1)) + 1 := by simp; omega
    have hxk : getIdx (x :: rest) ((x :: rest).length - (1 + m)) = .ok rest[rest.length - (m + 1)] := by
      rw [hidx, getIdx_cons_succ, getIdx_of_lt _ _ hi]
    have hxc : getIdx (x :: rest) ((x :: rest).length - (rest.length + 1)) = .ok x := by
      rw [List.length_cons, Nat.sub_self]; rfl
    simp only [ok_bind, List.foldlM_cons, List.foldlM_nil, inner, hxk, hxc, pure_eq_ok, bump_eq_add_sgn0]
    congr 1
    have hd : rest.drop (rest.length - (m + 1)) = rest[rest.length - (m + 1)] :: rest.drop (rest.length - m) := by
      rw [List.drop_eq_getElem_cons hi]; congr 2; omega
    rw [hd]; simp only [List.map_cons, sumL_cons]; ring

/-- **the double loop computes Kendall's numerator Σ_{i<j} sgn0(w_j − w_i) over all pairs** -/
theorem netNum_eq (q : List α) : netNum q = .ok (kendallNum q) := by
  induction q with
  | nil => simp [netNum_def, forRange, kendallNum, pure_eq_ok]
  | cons x rest ih =>
    rw [netNum_def] at ih ⊢
    simp only [forRange] at ih ⊢
    have hlen : (x :: rest).length + 1 - 2 = rest.length := by simp
    rw [hlen]
    by_cases h0 : rest = []
    · subst h0; simp [kendallNum, pure_eq_ok]
    · have hpos : 0 < rest.length := List.length_pos_of_ne_nil h0
      obtain ⟨n, hn⟩ : ∃ n, rest.length = n + 1 := ⟨rest.length - 1, by omega⟩
      rw [hn, List.range'_concat, List.foldlM_append, Nat.one_mul]
      -- the first n outer iterations only involve `rest`
      have hpre : (List.range' 2 n).foldlM (fun num count => (List.range' 1 (count - 1)).foldlM (inner (x :: rest) count) num) (nat 0 : α)
          = (List.range' 2 n).foldlM (fun num count => (List.range' 1 (count - 1)).foldlM (inner rest count) num) (nat 0 : α) := by
        apply foldlM_congr
        intro b c hc
        have hc' := List.mem_range'_1.mp hc
        exact inner_tail x rest c (by omega) b
      rw [hpre]
      have hrest : rest.length + 1 - 2 = n := by omega
      rw [hrest] at ih
      rw [ih]
      -- the last outer iteration compares every newer value with the oldest one, `x`: `inner_last`
      simp only [ok_bind, List.foldlM_cons, List.foldlM_nil]
      have hlast : 2 + n - 1 = rest.length := by omega
      have hcount : 2 + n = rest.length + 1 := by omega
      rw [hlast, hcount, inner_last x rest rest.length (le_refl _)]
      simp only [Nat.sub_self, List.drop_zero, ok_bind, pure_eq_ok, kendallNum]
      rw [add_comm]

variable [FloatLike α] [ExactScalar α]

def st (N : Nat) (xs : List α) : NetState α := { out := Spec.net N xs, q := lastN N xs }

theorem tracks (N : Nat) (hN : 0 < N) : (netCore (α := α) N).Tracks (st N) where
  init := by simp [st, netCore, Spec.net]
  step xs x := by
    have hq := lastN_push N hN xs x
    by_cases h2 : (lastN N (xs ++ [x])).length < 2
    · -- a window of one value: the (absent) output is kept
      have hprev : (lastN N xs).length < 2 := by
        rw [lastN_length] at h2 ⊢; simp at h2; omega
      simp [netCore, st, hq, h2, Spec.net, hprev, pure_eq_ok]
    · have h1 : 1 ≤ (lastN N (xs ++ [x])).length := by omega
      simp only [netCore, st, hq, h2, if_false, netNum_eq, ok_bind, pure_eq_ok, assertFinite_exact, Spec.net, kendall, dec_eq,
        nat_eq, Nat.cast_one, Nat.cast_mul, Nat.cast_sub h1]
      congr 3
      push_cast; ring

end SF.Net
