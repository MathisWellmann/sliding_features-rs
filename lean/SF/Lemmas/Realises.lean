import SF.Lemmas.Field
import SF.Model.Pure
/-
  A view "realises" a batch function when it never panics and reports that function of what it was fed: the hypothesis
  under which EhlersFisherTransform and PolarizedFractalEfficiency are characterised for ANY inner moving average, and
  what every characterised core gives when it is run over Echo.
-/
namespace SF.Eft
variable {α : Type}

/-- `ma` never panics and, after being fed `fed`, reports `maS fed` -/
def Realises (ma : View α) (maS : List α → Option α) : Prop :=
  ∀ fed : List α, ∃ m, ma.run ma.init fed = .ok m ∧ ma.last m = .ok (maS fed)

theorem realises_upd (ma : View α) (maS : List α → Option α) (h : Realises ma maS) (fed : List α) (m : ma.σ)
    (hm : ma.run ma.init fed = .ok m) (nv : α) :
    ∃ m', ma.upd m nv = .ok m' ∧ ma.run ma.init (fed ++ [nv]) = .ok m' ∧ ma.last m' = .ok (maS (fed ++ [nv])) := by
  obtain ⟨m', hr, hl⟩ := h (fed ++ [nv])
  refine ⟨m', ?_, hr, hl⟩
  simpa only [View.run_append, hm, ok_bind, View.run, bind_eq_ok, pure_eq_ok, Except.ok.injEq, exists_eq_right] using hr

section
variable [FloatLike α] [ExactScalar α]

theorem echo_trace (s : Option α) (xs : List α) :
    (echoV (α := α)).trace s xs = .ok (xs.map some) ∧ ∃ s', (echoV (α := α)).run s xs = .ok s' := by
  induction xs generalizing s with
  | nil => exact ⟨rfl, s, rfl⟩
  | cons x xs ih =>
    obtain ⟨h1, h2⟩ := ih (some x)
    simpa only [View.trace_cons, View.run_cons, assertFinite_exact, ok_bind, pure_eq_ok, h1, List.map_cons, true_and] using h2

theorem overEcho_run (B : Core α) (xs : List α) (o : Option α) (b b' : B.σ) (h : B.run b xs = .ok b') :
    ∃ o', (overEcho B).run (o, b) xs = .ok (o', b') :=
  (echo_trace o xs).2.imp fun _ ho => (wrap_run_eq_ok (allFinite_exact xs)).mpr
    ⟨_, (echo_trace o xs).1, ho, fun v _ => ExactScalar.finite v, by simpa [List.filterMap_map] using h⟩

/-- a core characterised as `outAfter = spec`, run over Echo, realises `spec` -/
theorem realises_of_outAfter (B : Core α) (spec : List α → Option α) (h : ∀ xs, B.outAfter xs = .ok (spec xs)) :
    Realises (overEcho B) spec := fun fed =>
  let ⟨b', hr, ho⟩ := bind_eq_ok.mp (h fed)
  let ⟨o', h'⟩ := overEcho_run B fed none B.init b' hr
  ⟨(o', b'), h', ho⟩
end

/-! the same, stated at the scalar of the property theorems that cite it -/
section
set_option linter.unusedSectionVars false
variable [Field α] [LinearOrder α] [IsStrictOrderedRing α] [FloatLike α] [ExactScalar α] [Transc α]

theorem realises_overEcho (B : Core α) (spec : List α → Option α) (h : ∀ xs, B.outAfter xs = .ok (spec xs)) :
    Realises (overEcho B) spec := realises_of_outAfter B spec h
end

end SF.Eft
