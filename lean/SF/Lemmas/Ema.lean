import SF.Lemmas.Field
import SF.Model.Window
/- Ema: e_0 = x_0, e_t = w x_t + (1-w) e_{t-1}, w = alpha/(N+1); reported from the N-th value on. -/
namespace SF.Ema
open Spec
variable {α : Type} [Field α]

theorem emaRec_snoc (w : α) (xs : List α) (x e : α) (h : emaRec w xs = some e) :
    emaRec w (xs ++ [x]) = some (w * x + (1 - w) * e) := by
  cases xs with
  | nil => cases h
  | cons x0 r =>
    cases h
    simp only [emaRec, List.cons_append, List.foldl_append, List.foldl_cons, List.foldl_nil, nat_eq, Nat.cast_one]

/-- what Ema reports is a value of the recursion -/
theorem emaRec_of_ema {N : Nat} {alpha : α} {xs : List α} {v : α} (h : Spec.ema N alpha xs = some v) :
    emaRec (alpha / ((N : α) + 1)) xs = some v := by
  simp only [Spec.ema] at h
  split at h
  · simp at h
  · simpa using h

variable [FloatLike α]

/-- the state after the history `xs`: both value fields hold the recursion's value (0 before the first input) -/
def st (N : Nat) (alpha : α) (xs : List α) : EmaState α :=
  let e := (emaRec (alpha / ((N : α) + 1)) xs).getD 0
  { lastEma := e, out := e, n := xs.length }

theorem tracks (N : Nat) (alpha : α) : (emaCore (α := α) N alpha).Tracks (st N alpha) where
  init := by simp [st, emaCore, emaRec]
  step xs x := by
    cases xs with
    | nil => simp [emaCore, st, emaRec, pure_eq_ok]
    | cons x0 r =>
      obtain ⟨e, he⟩ : ∃ e, emaRec (alpha / ((N : α) + 1)) (x0 :: r) = some e := ⟨_, rfl⟩
      -- the model writes v·w + last·(1−w) with w = alpha/(1+N); the spec w·x + (1−w)·e with N+1
      simp only [emaCore, st, he, emaRec_snoc _ _ x e he, Option.getD_some, List.length_append, List.length_cons,
        List.length_nil, Nat.add_eq_right, Nat.add_eq_zero_iff, one_ne_zero, and_false, if_false, pure_eq_ok, nat_eq, Nat.cast_one,
        add_comm (1 : α), mul_comm x, mul_comm e]

variable [ExactScalar α]

theorem out_st (N : Nat) (hN : 0 < N) (alpha : α) (xs : List α) :
    (emaCore N alpha).out (st N alpha xs) = .ok (Spec.ema N alpha xs) := by
  by_cases hlt : xs.length < N
  · simp [emaCore, st, Spec.ema, hlt, pure_eq_ok]
  · cases xs with
    | nil => exact absurd hN hlt
    | cons x0 r => simp [emaCore, st, Spec.ema, hlt, emaRec, pure_eq_ok, ok_bind, -List.length_cons]

/-- **Ema follows its recursion for every input, including zeros and sign changes** -/
theorem outAfter_eq (N : Nat) (hN : 0 < N) (alpha : α) (xs : List α) :
    (emaCore (α := α) N alpha).outAfter xs = .ok (Spec.ema N alpha xs) := by
  rw [(tracks N alpha).outAfter, out_st N hN]
end SF.Ema
