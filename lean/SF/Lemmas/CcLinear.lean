import SF.Lemmas.CyberCycle
import SF.Lemmas.Linear
/-
  CyberCycle is a linear map from the input stream to the output stream: the whole output sequence of a·x + b·y is
  a·(that of x) + b·(that of y), start-up zeros included.
-/
namespace SF.CcLinear
open SF.Spec SF.Linear
variable {α : Type} [Field α]

theorem at_lin (a b : α) (xs ys : List α) (h : xs.length = ys.length) (t : Int) :
    at' (lin a b xs ys) (nat 0) t = a * at' xs (nat 0) t + b * at' ys (nat 0) t := by
  unfold at'
  split
  · simp
  · simp only [lin, List.getElem?_zipWith]
    cases hx : xs[t.toNat]? with
    | none =>
      have : ys[t.toNat]? = none := by
        rw [List.getElem?_eq_none_iff] at hx ⊢; omega
      simp [this]
    | some u =>
      cases hy : ys[t.toNat]? with
      | none =>
        rw [List.getElem?_eq_none_iff] at hy
        have := (List.getElem?_eq_some_iff.mp hx).1
        omega
      | some v => simp

theorem smS_lin (a b : α) (xs ys : List α) (h : xs.length = ys.length) (t : Int) :
    CC.smS (lin a b xs ys) t = a * CC.smS xs t + b * CC.smS ys t := by
  unfold CC.smS
  rw [at_lin a b xs ys h t, at_lin a b xs ys h (t - 1), at_lin a b xs ys h (t - 2), at_lin a b xs ys h (t - 3)]
  simp only [nat_eq, Nat.cast_ofNat]
  ring

/-- the output sequences (newest first) combine linearly -/
theorem C_lin (N : Nat) (a b : α) (xs ys : List α) (h : xs.length = ys.length) (n : Nat) :
    CC.C N (lin a b xs ys) n = lin a b (CC.C N xs n) (CC.C N ys n) := by
  induction n with
  | zero => simp [CC.C, lin]
  | succ n ih =>
    rw [CC.C_succ, CC.C_succ, CC.C_succ, ih]
    obtain ⟨e1, e2⟩ := taps_lin a b (CC.C N xs n) (CC.C N ys n) (by rw [CC.C_length, CC.C_length])
    have e3 : ∀ (u v : α) (l r : List α), lin a b (u :: l) (v :: r) = (a * u + b * v) :: lin a b l r := fun _ _ _ _ => rfl
    unfold CC.stepC
    split
    · rw [e3]; simp
    · rw [e3]
      congr 1
      simp only [nat_eq, Nat.cast_zero] at e1 e2 ⊢
      rw [e1, e2, smS_lin a b xs ys h, smS_lin a b xs ys h, smS_lin a b xs ys h]
      ring

end SF.CcLinear
