import SF.Lemmas.Field
import SF.Lemmas.Index
/- LaguerreFilter: the (trimmed) per-stage vectors hold the current and previous ladder values; output = (L0+2L1+2L2+L3)/6. -/
namespace SF.Lagf
open SF.Spec
variable {α : Type} [Field α]

theorem ladder_snoc (g : α) (init : α × α × α × α) (r : List α) (x : α) :
    lagLadder g init (r ++ [x]) =
      (let s := lagLadder g init r
       let n0 := (nat 1 - g) * x + g * s.1
       let n1 := -g * n0 + s.1 + g * s.2.1
       let n2 := -g * n1 + s.2.1 + g * s.2.2.1
       let n3 := -g * n2 + s.2.2.1 + g * s.2.2.2
       (n0, n1, n2, n3)) := by
  simp only [lagLadder, List.foldl_append, List.foldl_cons, List.foldl_nil]

/-- the ladder values after a non-empty history -/
def lad (g : α) : List α → Option (α × α × α × α)
  | [] => none
  | x0 :: r => some (lagLadder g (x0, x0, x0, x0) r)

/-- a state past the first value: every stage deque holds the stage's previous value (`pre`: none yet after one value) and
its current one, `filts` the current output -/
def stOf (pre : Option (α × α × α × α)) (C : α × α × α × α) : LagfState α :=
  { l0s := pre.toList.map (·.1) ++ [C.1], l1s := pre.toList.map (·.2.1) ++ [C.2.1], l2s := pre.toList.map (·.2.2.1) ++ [C.2.2.1],
    l3s := pre.toList.map (·.2.2.2) ++ [C.2.2.2], filts := [(C.1 + nat 2 * C.2.1 + nat 2 * C.2.2.1 + C.2.2.2) / nat 6] }

/-- the state after the history `xs` -/
def st (g : α) (xs : List α) : LagfState α :=
  match lad g xs with
  | none => { l0s := [], l1s := [], l2s := [], l3s := [], filts := [] }
  | some C => stOf (lad g xs.dropLast) C

/-- from the second value on, the previous ladder values are those after the history without its newest value -/
theorem st_snoc (g x0 x : α) (r : List α) :
    st g (x0 :: (r ++ [x])) = stOf (some (lagLadder g (x0, x0, x0, x0) r)) (lagLadder g (lagLadder g (x0, x0, x0, x0) r) [x]) := by
  have hd : (x0 :: (r ++ [x])).dropLast = x0 :: r := by rw [← List.cons_append, List.dropLast_concat]
  unfold st
  rw [hd, show lagLadder g (lagLadder g (x0, x0, x0, x0) r) [x] = lagLadder g (x0, x0, x0, x0) (r ++ [x]) from
    (List.foldl_append ..).symm]
  rfl

variable [FloatLike α]

theorem out_st (g : α) (xs : List α) : (lagfCore g).out (st g xs) = .ok (Spec.laguerreFilter g xs) := by
  cases xs <;> rfl

/-- two entries per stage and the latest output, whatever the history -/
theorem size_st_le (g : α) (xs : List α) : (lagfCore g).size (st g xs) ≤ 9 := by
  show (st g xs).l0s.length + (st g xs).l1s.length + (st g xs).l2s.length + (st g xs).l3s.length + (st g xs).filts.length ≤ 9
  unfold st
  -- empty history, first value, later: each shape of the state has at most 2+2+2+2+1 entries
  cases lad g xs <;> cases lad g xs.dropLast <;> simp [stOf]

variable [ExactScalar α]

/-- **one update on deques that end in the current stage values**: `len − 1` / `len − 2` read those values and the ones
just pushed; then every deque is trimmed to its two (the outputs: one) newest entries -/
theorem step_snoc (g : α) (p0 p1 p2 p3 fs : List α) (L0 L1 L2 L3 x : α) :
    (lagfCore g).step { l0s := p0 ++ [L0], l1s := p1 ++ [L1], l2s := p2 ++ [L2], l3s := p3 ++ [L3], filts := fs } x = .ok
      (let n0 := (nat 1 - g) * x + g * L0
       let n1 := -g * n0 + L0 + g * L1
       let n2 := -g * n1 + L1 + g * L2
       let n3 := -g * n2 + L2 + g * L3
       let trim := fun (l : List α) => if 2 < l.length then l.tail else l
       let fs' := fs ++ [(n0 + nat 2 * n1 + nat 2 * n2 + n3) / nat 6]
       { l0s := trim (p0 ++ [L0] ++ [n0]), l1s := trim (p1 ++ [L1] ++ [n1]), l2s := trim (p2 ++ [L2] ++ [n2]),
         l3s := trim (p3 ++ [L3] ++ [n3]), filts := if 1 < fs'.length then fs'.tail else fs' }) := by
  have hne : (p0 ++ [L0]).isEmpty = false := by cases p0 <;> rfl
  simp only [lagfCore, hne, Bool.false_eq_true, if_false, fromEnd_one, fromEnd_two, ok_bind, pure_eq_ok, assertFinite_exact]

/-- **one update past the first value**: the current values become the previous ones, the ladder advances -/
theorem step_stOf (g : α) (pre : Option (α × α × α × α)) (C : α × α × α × α) (x : α) :
    (lagfCore g).step (stOf pre C) x = .ok (stOf (some C) (lagLadder g C [x])) := by
  obtain ⟨c0, c1, c2, c3⟩ := C
  refine (step_snoc g _ _ _ _ _ _ _ _ _ x).trans ?_
  cases pre <;> rfl

theorem tracks (g : α) : (lagfCore (α := α) g).Tracks (st g) where
  init := rfl
  step xs x := by
    cases xs with
    | nil => rfl
    | cons x0 r =>
      exact (step_stOf g _ (lagLadder g (x0, x0, x0, x0) r) x).trans (congrArg Except.ok (st_snoc g x0 x r).symm)

end SF.Lagf
