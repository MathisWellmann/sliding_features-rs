import SF.Lemmas.Field
/- List algebra about the batch specs: the two ways a property of a fold is proved (an invariant of its step, a
   homomorphism of its step) and what the model's loops compute (`foldl_pair`, `foldlM_congr`, `foldlM_sum`), the newest
   value and the window, the inequalities about sums and means of a window (the equations of `sumL` are in `Field`),
   the sign function `sgn0`. -/
namespace SF.Spec

section
variable {σ τ β γ : Type}

theorem foldl_invariant (P : σ → Prop) {g : σ → β → σ} (xs : List β) (h : ∀ s, ∀ x ∈ xs, P s → P (g s x)) (s : σ) (h0 : P s) :
    P (xs.foldl g s) :=
  List.foldlRecOn xs g h0 fun s hs x hx => h s x hx hs

theorem foldl_map_hom (φ : σ → τ) (f : β → γ) {g : σ → β → σ} {g' : τ → γ → τ}
    (H : ∀ s x, g' (φ s) (f x) = φ (g s x)) (xs : List β) (s : σ) :
    (xs.map f).foldl g' (φ s) = φ (xs.foldl g s) := by
  rw [List.foldl_map]
  exact List.foldl_hom φ H

theorem foldl_pair {β γ δ : Type} (f : β → δ → β) (g : γ → δ → γ) (l : List δ) (a : β) (b : γ) :
    l.foldl (fun (p : β × γ) v => (f p.1 v, g p.2 v)) (a, b) = (l.foldl f a, l.foldl g b) := by
  induction l generalizing a b with
  | nil => rfl
  | cons v l ih => exact ih _ _

theorem foldlM_congr {β ι : Type} (l : List ι) (f g : β → ι → M β) (h : ∀ b, ∀ i ∈ l, f b i = g b i) (b : β) :
    l.foldlM f b = l.foldlM g b := by
  induction l generalizing b with
  | nil => rfl
  | cons i l ih =>
    simp only [List.foldlM_cons, h b i (by simp)]
    cases g b i with
    | error e => rfl
    | ok b' => exact ih (fun b j hj => h b j (by simp [hj])) b'

theorem mem_lastN_of_getLast (N : Nat) (hN : 0 < N) (xs : List β) (x : β) (h : xs.getLast? = some x) : x ∈ lastN N xs :=
  List.mem_of_getLast? (by rw [getLast_lastN N hN, h])

theorem lastN_replicate (N k : Nat) (c : β) : lastN N (List.replicate k c) = List.replicate (min N k) c := by
  rw [lastN, List.length_replicate, List.drop_replicate]
  congr 1
  omega

theorem lastN_flat (N : Nat) (p : List β) (c : β) (k : Nat) (hk : N ≤ k) :
    lastN N (p ++ List.replicate k c) = List.replicate N c := by
  rw [lastN_append_of_le N p _ (by rw [List.length_replicate]; exact hk), lastN_replicate, Nat.min_eq_left hk]

theorem getLast_flat (p : List β) (c : β) (k : Nat) (hk : 0 < k) : (p ++ List.replicate k c).getLast? = some c := by
  rw [List.getLast?_append, List.getLast?_replicate, if_neg (Nat.ne_of_gt hk), Option.some_or]

theorem lastN_forall₂ {R : β → β → Prop} (n : Nat) (xs ys : List β) (h : List.Forall₂ R xs ys) :
    List.Forall₂ R (lastN n xs) (lastN n ys) := by
  simp only [lastN, h.length_eq]
  exact List.forall₂_drop _ h
end

section
variable {α : Type} [Field α]
/-- the spec of Sma, unfolded: mean of `lastN N xs` once `N` values exist -/
theorem sma_spec (N : Nat) (xs : List α) (h : N ≤ xs.length) : sma N xs = some (sumL (lastN N xs) / (N : α)) := by
  have : ¬ xs.length < N := by omega
  simp [sma, this, lastN_length, Nat.min_eq_left h]

/-- a counting loop whose body adds `h i` to the accumulator computes the sum of the `h i` -/
theorem foldlM_sum (k : Nat) (f : α → Nat → M α) (h : Nat → α) (hf : ∀ acc i, i < k → f acc i = .ok (acc + h i)) (a : α) :
    (List.range' 0 k).foldlM f a = .ok (a + sumL ((List.range k).map h)) := by
  induction k with
  | zero => simp [pure_eq_ok]
  | succ k ih =>
    rw [List.range'_concat, List.foldlM_append, ih (fun acc i hi => hf acc i (by omega)), Nat.one_mul, Nat.zero_add]
    simp only [ok_bind, List.foldlM_cons, List.foldlM_nil, hf _ k (by omega), pure_eq_ok]
    rw [List.range_succ, List.map_append, sumL_append]
    simp only [List.map_cons, List.map_nil, sumL_cons, sumL_nil]
    congr 1; ring
end

variable {α : Type} [Field α] [LinearOrder α] [IsStrictOrderedRing α]

set_option linter.unusedSectionVars false in
theorem lastN_map {β : Type} (n : Nat) (f : α → β) (xs : List α) : lastN n (xs.map f) = (lastN n xs).map f :=
  lastN_map' n f xs

theorem sumL_mem_Icc (lo hi : α) (xs : List α) (hlo : ∀ x ∈ xs, lo ≤ x) (hhi : ∀ x ∈ xs, x ≤ hi) :
    (xs.length : α) * lo ≤ sumL xs ∧ sumL xs ≤ (xs.length : α) * hi := by
  induction xs with
  | nil => simp
  | cons x xs ih =>
    obtain ⟨i1, i2⟩ := ih (fun y hy => hlo y (List.mem_cons_of_mem _ hy)) (fun y hy => hhi y (List.mem_cons_of_mem _ hy))
    have h1 := hlo x List.mem_cons_self
    have h2 := hhi x List.mem_cons_self
    simp only [sumL_cons, List.length_cons, Nat.cast_succ]
    constructor <;> linarith

theorem sumL_pos (l : List α) (hl : l ≠ []) (h : ∀ x ∈ l, 0 < x) : 0 < sumL l := by
  obtain ⟨x, r, rfl⟩ := List.exists_cons_of_ne_nil hl
  have hr := sumL_map_nonneg id r fun y hy => (h y (List.mem_cons_of_mem _ hy)).le
  rw [List.map_id] at hr
  exact add_pos_of_pos_of_nonneg (h x List.mem_cons_self) hr

theorem abs_sumL_map_le {β : Type} (g : β → α) (c : α) (l : List β) (h : ∀ x ∈ l, |g x| ≤ c) :
    |sumL (l.map g)| ≤ (l.length : α) * c := by
  induction l with
  | nil => simp
  | cons x r ih =>
    have h1 := h x List.mem_cons_self
    have h2 := ih fun y hy => h y (List.mem_cons_of_mem _ hy)
    simp only [List.map_cons, sumL_cons, List.length_cons, Nat.cast_succ]
    linarith [abs_add_le (g x) (sumL (r.map g))]

theorem sumL_mono (xs ys : List α) (h : List.Forall₂ (· ≤ ·) xs ys) : sumL xs ≤ sumL ys := by
  induction h with
  | nil => simp
  | cons hab _ ih => simp only [sumL_cons]; linarith

theorem div_mem_Icc {lo hi n d : α} (hd : 0 < d) (h1 : lo * d ≤ n) (h2 : n ≤ hi * d) : lo ≤ n / d ∧ n / d ≤ hi :=
  ⟨(le_div_iff₀ hd).2 h1, (div_le_iff₀ hd).2 h2⟩

theorem mean_mem_Icc (w : List α) (hw : w ≠ []) (lo hi : α) (hlo : ∀ x ∈ w, lo ≤ x) (hhi : ∀ x ∈ w, x ≤ hi) :
    lo ≤ sumL w / (w.length : α) ∧ sumL w / (w.length : α) ≤ hi := by
  have hpos : (0 : α) < (w.length : α) := by exact_mod_cast List.length_pos_of_ne_nil hw
  obtain ⟨h1, h2⟩ := sumL_mem_Icc lo hi w hlo hhi
  exact div_mem_Icc hpos (by rwa [mul_comm]) (by rwa [mul_comm])

section sgn0
variable {α : Type} [Field α] [LinearOrder α]

theorem sgn0_of_pos (d : α) (h : 0 < d) : sgn0 d = 1 := by simp [sgn0, h]
theorem sgn0_of_neg (d : α) (h : d < 0) : sgn0 d = -1 := by simp [sgn0, h, not_lt.mpr (le_of_lt h)]
theorem sgn0_zero : sgn0 (0 : α) = 0 := by simp [sgn0]

variable [IsStrictOrderedRing α]

theorem sgn0_neg (d : α) : sgn0 (-d) = -sgn0 d := by
  rcases lt_trichotomy d 0 with h | h | h
  · rw [sgn0_of_neg d h, sgn0_of_pos (-d) (by linarith)]; simp
  · subst h; simp [sgn0_zero]
  · rw [sgn0_of_pos d h, sgn0_of_neg (-d) (by linarith)]

theorem sgn0_mono (f : α → α) (hf : StrictMono f) (x y : α) : sgn0 (f y - f x) = sgn0 (y - x) := by
  rcases lt_trichotomy x y with h | h | h
  · rw [sgn0_of_pos _ (sub_pos.mpr (hf h)), sgn0_of_pos _ (sub_pos.mpr h)]
  · subst h; simp [sgn0_zero]
  · rw [sgn0_of_neg _ (sub_neg.mpr (hf h)), sgn0_of_neg _ (sub_neg.mpr h)]

theorem abs_sgn0_le (d : α) : |sgn0 d| ≤ 1 := by
  unfold sgn0
  split_ifs <;> simp [nat_eq]
end sgn0

end SF.Spec
