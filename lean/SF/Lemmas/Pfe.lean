import SF.Lemmas.Realises
import SF.Model.Ehlers
import SF.Lemmas.Field
import SF.Lemmas.Index
import SF.Lemmas.SpecFacts
/-
  PolarizedFractalEfficiency (N ≥ 3): from the N-th value on, the signed ratio of the straight-line length
  √((x(t) − x(t−N+1))² + N²) to the summed step lengths √(d² + 1) over the window's N−2 most recent steps (negative when the
  last step is down) is fed to the supplied moving average, whose answer is reported.
-/
namespace SF.Pfe
open Spec

section
variable {α : Type}

variable [Field α]

theorem getIdx_lastN (N : Nat) (xs : List α) (j : Nat) (hj : j < N) (hN : N ≤ xs.length) :
    getIdx (lastN N xs) j = .ok (xs[xs.length - N + j]?.getD (nat 0)) := by
  rw [getIdx_ok _ _ (nat 0) (by rw [lastN_length]; omega), lastN_getElem?]

end

section
variable {α : Type} [Field α] [LinearOrder α] [Transc α]

/-- the signed ratio at time t (t ≥ N−1), read from the complete history -/
def ratioAt (N : Nat) (xs : List α) (t : Nat) : α :=
  let x := fun (i : Nat) => xs[i]?.getD (nat 0)
  let den := sumL ((List.range (N - 2)).map fun i => Transc.sqrt (sq (x (t - i) - x (t - i - 1)) + nat 1))
  let p := Transc.sqrt (sq (x t - x (t + 1 - N)) + sq (nat N)) / den
  if x t < x (t - 1) then -p else p

theorem pfeRatios_def (N : Nat) (xs : List α) :
    pfeRatios N xs = (List.range xs.length).filterMap fun t => if t + 1 < N then none else some (ratioAt N xs t) := rfl

/-- A ratio only reads the values `xs[t−j]`, `j < max N 2`: a list that has them `d` places earlier gives the same ratio
at time `t − d`. -/
theorem ratioAt_shift (N : Nat) (hN : 1 ≤ N) (xs ys : List α) (d t : Nat) (hd : ∀ j, j < max N 2 → d ≤ t - j)
    (e : ∀ i, d ≤ i → i ≤ t → xs[i]? = ys[i - d]?) : ratioAt N xs t = ratioAt N ys (t - d) := by
  have r : ∀ j, j < max N 2 → xs[t - j]? = ys[t - d - j]? := fun j hj => by
    rw [e (t - j) (hd j hj) (Nat.sub_le t j), Nat.sub_right_comm]
  have hden : ((List.range (N - 2)).map fun i => Transc.sqrt (sq (xs[t - i]?.getD (nat 0) - xs[t - i - 1]?.getD (nat 0)) + nat 1))
      = (List.range (N - 2)).map fun i =>
          Transc.sqrt (sq (ys[t - d - i]?.getD (nat 0) - ys[t - d - i - 1]?.getD (nat 0)) + nat 1) :=
    List.map_congr_left fun i hi => by
      have hi := List.mem_range.mp hi
      rw [r i (by omega), Nat.sub_sub t i 1, Nat.sub_sub (t - d) i 1, r (i + 1) (by omega)]
  have h0 := r 0 (by omega)
  have h1 := r 1 (by omega)
  have hN1 := r (N - 1) (by omega)
  rw [Nat.sub_zero, Nat.sub_zero] at h0
  rw [show t - (N - 1) = t + 1 - N by omega, show t - d - (N - 1) = t - d + 1 - N by omega] at hN1
  simp only [ratioAt, h0, h1, hN1, hden]

theorem ratioAt_prefix (N : Nat) (hN : 1 ≤ N) (xs : List α) (x : α) (t : Nat) (ht : t < xs.length) :
    ratioAt N (xs ++ [x]) t = ratioAt N xs t :=
  ratioAt_shift N hN (xs ++ [x]) xs 0 t (fun _ _ => Nat.zero_le _) (fun _ _ hi => List.getElem?_append_left (by omega))

theorem pfeRatios_snoc (N : Nat) (hN : 1 ≤ N) (xs : List α) (x : α) :
    pfeRatios N (xs ++ [x]) = pfeRatios N xs ++ (if xs.length + 1 < N then [] else [ratioAt N (xs ++ [x]) xs.length]) := by
  rw [pfeRatios_def, pfeRatios_def]
  simp only [List.length_append, List.length_singleton, List.range_succ, List.filterMap_append, List.filterMap_cons,
    List.filterMap_nil]
  congr 1
  · apply List.filterMap_congr
    intro t ht
    rw [List.mem_range] at ht
    split
    · rfl
    · rw [ratioAt_prefix N hN xs x t ht]
  · by_cases hc : xs.length + 1 < N <;> simp [hc]

end

section
variable {α : Type} [Field α] [Transc α]

/-- what the update reads from a full window, in terms of the complete history `ys` (newest index `t`): the loop over the
N−2 most recent steps sums their lengths, the front is `ys[t+1−N]`, and `q[N−2]` is the previous value `ys[t−1]` -/
theorem window_reads (N : Nat) (hN : 3 ≤ N) (ys : List α) (hy : N ≤ ys.length) :
    forRange 0 (N - 2) (nat 0 : α) (fun acc i => do
        let i0 ← usub (N - 1) i
        let i1 ← usub i0 1
        let v0 ← getIdx (lastN N ys) i0
        let v1 ← getIdx (lastN N ys) i1
        pure (acc + Transc.sqrt (sq (v0 - v1) + nat 1)))
      = .ok (sumL ((List.range (N - 2)).map fun i =>
          Transc.sqrt (sq (ys[ys.length - 1 - i]?.getD (nat 0) - ys[ys.length - 1 - i - 1]?.getD (nat 0)) + nat 1))) ∧
    front (lastN N ys) = .ok (ys[ys.length - 1 + 1 - N]?.getD (nat 0)) ∧
    getIdx (lastN N ys) (N - 2) = .ok (ys[ys.length - 1 - 1]?.getD (nat 0)) := by
  refine ⟨?_, ?_, ?_⟩
  · simp only [forRange, Nat.sub_zero]
    rw [foldlM_sum (N - 2) _ (fun i =>
      Transc.sqrt (sq (ys[ys.length - 1 - i]?.getD (nat 0) - ys[ys.length - 1 - i - 1]?.getD (nat 0)) + nat 1))]
    · simp [nat_eq]
    · intro acc i hi
      have g0 := getIdx_lastN N ys (N - 1 - i) (by omega) hy
      have g1 := getIdx_lastN N ys (N - 1 - i - 1) (by omega) hy
      rw [show ys.length - N + (N - 1 - i) = ys.length - 1 - i by omega] at g0
      rw [show ys.length - N + (N - 1 - i - 1) = ys.length - 1 - i - 1 by omega] at g1
      simp only [usub_ok (show i ≤ N - 1 by omega), usub_ok (show 1 ≤ N - 1 - i by omega), g0, g1, ok_bind, pure_eq_ok]
  · obtain ⟨old, -, hw, -⟩ := (lastN_cases N (by omega) ys).resolve_left (fun h => absurd h.1 (by omega))
    have g := getIdx_lastN N ys 0 (by omega) hy
    rw [show ys.length - N + 0 = ys.length - 1 + 1 - N by omega, hw, getIdx_of_lt _ _ (by simp)] at g
    rw [hw, front_cons]; exact g
  · have g := getIdx_lastN N ys (N - 2) (by omega) hy
    rwa [show ys.length - N + (N - 2) = ys.length - 1 - 1 by omega] at g

end

section
variable {α : Type} [Field α] [LinearOrder α] [FloatLike α] [Transc α]

structure Inv (N : Nat) (ma : View α) (maS : List α → Option α) (s : List α × ma.σ × Option α) (xs : List α) : Prop where
  hq : s.1 = lastN N xs
  hma : ma.run ma.init (pfeRatios N xs) = .ok s.2.1
  hout : s.2.2 = Spec.pfe N maS xs

theorem step_ok (N : Nat) (hN : 3 ≤ N) (ma : View α) (maS : List α → Option α) (hR : Eft.Realises ma maS)
    (s : List α × ma.σ × Option α) (xs : List α) (x : α) (h : Inv N ma maS s xs) :
    ∃ s', (pfeCoreU N ma).step s x = .ok s' ∧ Inv N ma maS s' (xs ++ [x]) := by
  obtain ⟨hq, hma, hout⟩ := h
  have hpush : (if N ≤ s.1.length then s.1.tail else s.1) ++ [x] = lastN N (xs ++ [x]) := by
    rw [hq, lastN_push N (by omega)]
  have hlen : (lastN N (xs ++ [x])).length = min N (xs.length + 1) := by rw [lastN_length]; simp
  by_cases hfull : N ≤ xs.length + 1
  · -- a ratio is produced and fed to the moving average
    have hlen' : N ≤ (lastN N (xs ++ [x])).length := by rw [hlen]; omega
    obtain ⟨hloop, hfr, hprev⟩ := window_reads N hN (xs ++ [x]) (by simp; omega)
    simp only [List.length_append, List.length_singleton, Nat.add_sub_cancel] at hloop hfr hprev
    obtain ⟨m', hu, hrun, hl⟩ := Eft.realises_upd ma maS hR (pfeRatios N xs) s.2.1 hma (ratioAt N (xs ++ [x]) xs.length)
    have hsn : pfeRatios N (xs ++ [x]) = pfeRatios N xs ++ [ratioAt N (xs ++ [x]) xs.length] := by
      rw [pfeRatios_snoc N (by omega)]; simp [show ¬ xs.length + 1 < N by omega]
    have hx : (xs ++ [x])[xs.length]?.getD (nat 0) = x := by simp
    refine ⟨(lastN N (xs ++ [x]), m', maS (pfeRatios N (xs ++ [x]))), ?_, ⟨rfl, by rw [hsn]; exact hrun, ?_⟩⟩
    · simp only [ratioAt, hx] at hu
      simp only [pfeCoreU, hpush, hlen', if_true, usub_ok (show 1 ≤ N by omega), usub_ok (show 2 ≤ N by omega), hloop, hfr,
        hprev, ok_bind, hu, hl, hsn]
      rfl
    · simp only [Spec.pfe, hsn]; simp
  · have hlen' : ¬ N ≤ (lastN N (xs ++ [x])).length := by rw [hlen]; omega
    have hsn : pfeRatios N (xs ++ [x]) = pfeRatios N xs := by
      rw [pfeRatios_snoc N (by omega)]; simp [show xs.length + 1 < N by omega]
    refine ⟨(lastN N (xs ++ [x]), s.2.1, s.2.2), ?_, ⟨rfl, by rw [hsn]; exact hma, ?_⟩⟩
    · simp only [pfeCoreU, hpush, hlen', if_false, pure_eq_ok]
    · simp only [hout, Spec.pfe, hsn]

theorem init_inv (N : Nat) (ma : View α) (maS : List α → Option α) : Inv N ma maS (pfeCoreU N ma).init [] :=
  ⟨by simp [pfeCoreU], by simp [pfeCoreU, pfeRatios_def, View.run, pure_eq_ok], by simp [pfeCoreU, Spec.pfe, pfeRatios_def]⟩

theorem run_ok (N : Nat) (hN : 3 ≤ N) (ma : View α) (maS : List α → Option α) (hR : Eft.Realises ma maS) (xs : List α) :
    ∃ s, (pfeCoreU N ma).run (pfeCoreU N ma).init xs = .ok s ∧ Inv N ma maS s xs :=
  Core.run_invariant_init (pfeCoreU N ma) (Inv N ma maS) (init_inv N ma maS)
    (fun s pre x h => step_ok N hN ma maS hR s pre x h) xs
end

section
variable {α : Type} [Field α] [LinearOrder α] [IsStrictOrderedRing α] [FloatLike α] [ExactScalar α] [Transc α]
set_option linter.unusedSectionVars false in
/-- the window deque never holds more than N values -/
theorem size_le (N : Nat) (hN : 3 ≤ N) (ma : View α) (maS : List α → Option α) (hR : Eft.Realises ma maS) (xs : List α)
    (s : List α × ma.σ × Option α) (h : (pfeCoreU N ma).run (pfeCoreU N ma).init xs = .ok s) : s.1.length ≤ N :=
  length_le_of_eq_lastN (Core.inv_of_run (run_ok N hN ma maS hR) h).hq
end

end SF.Pfe
