import SF.Lemmas.Field
import SF.Model.Window
/- CenterOfGravity: the enumerate-loop computes Σ (n−i)·w_i and Σ w_i of the window; output = the CoG formula. -/
namespace SF.Cog
open Spec
variable {α : Type} [Field α]

/-- Σ (position-from-the-end weight)·value: the oldest of n values has weight n, the newest weight 1 -/
def wsum : List α → α
  | [] => 0
  | x :: r => ((r.length + 1 : Nat) : α) * x + wsum r

/-- the model's loop, started at index `k` inside a window of length `k + l.length` -/
theorem fold_eq (l : List α) (k : Nat) (a b : α) :
    (l.zipIdx k).foldl (fun (acc : α × α) (vi : α × Nat) =>
        (acc.1 + nat (k + l.length - vi.2) * vi.1, acc.2 + vi.1)) (a, b)
      = (a + wsum l, b + sumL l) := by
  induction l generalizing k a b with
  | nil => simp [wsum]
  | cons x r ih =>
    simp only [List.zipIdx_cons, List.foldl_cons, List.length_cons, Nat.add_sub_cancel_left]
    have e : ∀ vi : α × Nat, k + (r.length + 1) - vi.2 = (k + 1) + r.length - vi.2 := by intro vi; omega
    simp only [e]
    rw [ih (k + 1)]
    simp only [wsum, sumL_cons, nat_eq]
    congr 1 <;> ring

theorem cogSums_eq (q : List α) : cogSums q = (wsum q, sumL q) := by
  have := fold_eq q 0 (0 : α) 0
  simp only [zero_add] at this
  simp only [cogSums, nat_eq, Nat.cast_zero]
  exact this

/-- the spec's numerator Σ_k k·x_(t−k+1) (k = 1 newest) is the same weighted sum -/
theorem spec_num_eq (w : List α) :
    sumL (w.reverse.zipIdx.map fun (x, k) => (nat (k + 1) : α) * x) = wsum w := by
  induction w with
  | nil => simp [wsum]
  | cons x r ih =>
    rw [List.reverse_cons, List.zipIdx_append, List.map_append, sumL_append, ih]
    simp [wsum, add_comm]

theorem wsum_map_mul (a : α) (l : List α) : wsum (l.map fun x => a * x) = a * wsum l := by
  induction l with
  | nil => simp [wsum]
  | cons x r ih => simp only [List.map_cons, wsum, List.length_map, ih]; ring

variable [LinearOrder α]

theorem spec_eq_wsum (N : Nat) (xs : List α) :
    Spec.cog N xs = if lastN N xs = [] then none else
      some (if sumL (lastN N xs) = 0 then 0
        else (((lastN N xs).length : α) + 1) / 2 - wsum (lastN N xs) / sumL (lastN N xs)) := by
  simp only [Spec.cog, spec_num_eq]
  simp only [List.isEmpty_iff, nat_eq, Nat.cast_zero, Nat.cast_one, Nat.cast_ofNat, beq_iff_eq]

variable [IsStrictOrderedRing α]

theorem wsum_replicate (n : Nat) (c : α) : wsum (List.replicate n c) = (n : α) * ((n : α) + 1) / 2 * c := by
  induction n with
  | zero => simp [wsum]
  | succ n ih => simp only [List.replicate_succ, wsum, List.length_replicate, ih]; push_cast; ring

/-- every weight lies between 1 and n -/
theorem wsum_bounds (l : List α) (h : ∀ x ∈ l, 0 ≤ x) : sumL l ≤ wsum l ∧ wsum l ≤ (l.length : α) * sumL l := by
  induction l with
  | nil => simp [wsum]
  | cons x r ih =>
    obtain ⟨h1, h2⟩ := ih fun y hy => h y (List.mem_cons_of_mem _ hy)
    have hx : 0 ≤ x := h x List.mem_cons_self
    have hr : 0 ≤ sumL r := by simpa using sumL_map_nonneg id r fun y hy => h y (List.mem_cons_of_mem _ hy)
    have hn : (0 : α) ≤ r.length := Nat.cast_nonneg _
    simp only [wsum, sumL_cons, List.length_cons]
    push_cast
    constructor <;> linarith [mul_nonneg hn hx]

variable [FloatLike α] [ExactScalar α]

def st (N : Nat) (xs : List α) : CogState α := { q := lastN N xs, out := Spec.cog N xs }

theorem tracks (N : Nat) (hN : 0 < N) : (cogCore (α := α) N).Tracks (st N) where
  init := by simp [st, cogCore, Spec.cog]
  step xs x := by
    have hne : lastN N (xs ++ [x]) ≠ [] := (lastN_ne_nil hN).mpr (by simp)
    simp only [cogCore, st, lastN_push N hN, cogSums_eq, spec_eq_wsum N (xs ++ [x]), if_neg hne, nat_eq, Nat.cast_zero,
      Nat.cast_one, Nat.cast_ofNat]
    by_cases hz : sumL (lastN N (xs ++ [x])) = 0
    · simp [hz, pure_eq_ok]
    · have hb : (!(sumL (lastN N (xs ++ [x])) == 0)) = true := by simp [hz]
      simp only [hb, hz, if_true, if_false, assertFinite_exact, ok_bind, pure_eq_ok]
      congr 3
      ring

end SF.Cog
