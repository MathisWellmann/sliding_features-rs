import SF.Lemmas.Field
import SF.Model.Ehlers
/- SuperSmoother: the three scalar registers are the plain delays f(t), f(t-1) of the paper's recursion. -/
namespace SF.SS
open SF.Spec

variable {α : Type} [Field α]

/-- fold state of the spec after a history: (f's newest first, previous x).  The step is the spec's word for word, numerals as
`nat k`: `simp only [nat_eq, Nat.cast_zero, Nat.cast_ofNat]` turns them into literals before `ring` or `linarith`. -/
def foldState (c : Coef α) (pad : α) (xs : List α) : List α × α :=
  xs.foldl (fun (acc : List α × α) (x : α) =>
    let f1 := acc.1.headD (nat 0)
    let f2 := acc.1.tail.headD (nat 0)
    let f := c.c1 * (x + acc.2) / nat 2 + c.b1 * f1 + c.c3 * f2
    (f :: acc.1, x)) ([], pad)

theorem smoothSeq_eq (c : Coef α) (pad : α) (xs : List α) : smoothSeq c pad xs = (foldState c pad xs).1 := rfl

theorem foldState_snoc (c : Coef α) (pad : α) (xs : List α) (x : α) :
    foldState c pad (xs ++ [x]) =
      (let acc := foldState c pad xs
       ((c.c1 * (x + acc.2) / nat 2 + c.b1 * acc.1.headD (nat 0) + c.c3 * acc.1.tail.headD (nat 0)) :: acc.1, x)) := by
  simp only [foldState, List.foldl_append, List.foldl_cons, List.foldl_nil]

theorem foldState_length (c : Coef α) (pad : α) (xs : List α) : (foldState c pad xs).1.length = xs.length := by
  induction xs using List.reverseRecOn with
  | nil => simp [foldState]
  | append_singleton xs x ih => rw [foldState_snoc]; simp [ih]

/-- one filter value per input: after a non-empty history there is a newest one -/
theorem smoothSeq_head (c : Coef α) (pad : α) (xs : List α) (h : xs ≠ []) : ∃ v, (smoothSeq c pad xs).head? = some v := by
  have hl := foldState_length c pad xs
  rw [smoothSeq_eq]
  cases hh : (foldState c pad xs).1 with
  | nil => exact absurd (List.length_eq_zero_iff.mp (hl.symm.trans (congrArg List.length hh))) h
  | cons v r => exact ⟨v, rfl⟩

/-- `x(t−1)`: the second component of the fold state is the previous input (the pad before the first) -/
theorem prev_input (c : Coef α) (pad : α) (xs : List α) : (foldState c pad xs).2 = (xs.getLast?).getD pad := by
  rcases List.eq_nil_or_concat xs with rfl | ⟨ys, y, rfl⟩
  · simp [foldState]
  · simp only [List.concat_eq_append]; rw [foldState_snoc]; simp

variable [Transc α]

/-- the model's coefficients are the spec's (a1 = exp(−1.414·π/N), b1 = 2·a1·cos(4.4422/N), c3 = −a1², c1 = 1 − b1 − c3) -/
theorem coef_eq (N : Nat) : ((SF.ssCoef (α := α) N).c1, (SF.ssCoef (α := α) N).c2, (SF.ssCoef (α := α) N).c3)
    = ((Spec.ssCoef (α := α) N).c1, (Spec.ssCoef (α := α) N).b1, (Spec.ssCoef (α := α) N).c3) := by
  simp only [SF.ssCoef, Spec.ssCoef, piLit, neg_mul]

theorem headD_of_superSmoother (N : Nat) (xs : List α) (v : α) (h : Spec.superSmoother N xs = some v) :
    (foldState (Spec.ssCoef N) 0 xs).1.headD 0 = v := by
  simp only [Spec.superSmoother, nat_eq, Nat.cast_zero] at h
  split at h
  · cases h
  · rw [smoothSeq_eq, List.head?_eq_some_iff] at h
    obtain ⟨r, hr⟩ := h
    rw [hr, List.headD_cons]

/-- the state after the history `xs`: the registers are the two newest filter values and the previous input -/
def st (N : Nat) (xs : List α) : SsState α :=
  let fs := foldState (Spec.ssCoef N) (nat 0) xs
  { i := xs.length, filt := fs.1.headD (nat 0), filt1 := fs.1.headD (nat 0), filt2 := fs.1.tail.headD (nat 0), lastVal := fs.2 }

theorem step_st (N : Nat) (xs : List α) (x : α) : ssStep (SF.ssCoef N) (st N xs) x = st N (xs ++ [x]) := by
  have hc := coef_eq (α := α) N
  simp only [Prod.mk.injEq] at hc
  obtain ⟨e1, e2, e3⟩ := hc
  simp only [st, foldState_snoc, ssStep, List.length_append, List.length_singleton, List.headD_cons, List.tail_cons, e1, e2, e3]

variable [FloatLike α]

theorem tracks (N : Nat) : (ssCore (α := α) N).Tracks (st N) where
  init := rfl
  step xs x := congrArg Except.ok (step_st N xs x)

variable [ExactScalar α]

/-- from the N-th value on the sequence of filter values is non-empty (0 < N), and its newest entry is reported -/
theorem out_st (N : Nat) (hN : 0 < N) (xs : List α) : ssOut N (st N xs) = .ok (Spec.superSmoother N xs) := by
  simp only [ssOut, st, Spec.superSmoother]
  by_cases hlt : xs.length < N
  · simp only [hlt, if_true, pure_eq_ok]
  · obtain ⟨v, hv⟩ := smoothSeq_head (Spec.ssCoef (α := α) N) (nat 0) xs (List.ne_nil_of_length_pos (by omega))
    simp only [hlt, if_false, assertFinite_exact, ok_bind, pure_eq_ok, List.headD_eq_head?_getD, ← smoothSeq_eq, hv,
      Option.getD_some]

end SF.SS
