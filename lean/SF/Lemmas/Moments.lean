import SF.Lemmas.Field
/- First and second moments of a list; the Welford add / remove steps keep (mean, m2) equal to the batch statistics. -/
namespace SF.Moments
open SF.Spec

section
variable {α : Type} [Field α]

def S2 (l : List α) : α := sumL (l.map fun x => x * x)

@[simp] theorem S2_nil : S2 ([] : List α) = 0 := by simp [S2]
@[simp] theorem S2_cons (x : α) (l : List α) : S2 (x :: l) = x * x + S2 l := by simp [S2]
@[simp] theorem S2_append (l r : List α) : S2 (l ++ r) = S2 l + S2 r := by simp [S2]

theorem dot_self (l : List α) : Alma.dot l l = S2 l := by
  induction l with
  | nil => simp [Alma.dot]
  | cons x l ih => rw [Alma.dot, ih, S2_cons]

theorem S2_zipWith_lin (a b : α) (x y : List α) (h : x.length = y.length) :
    S2 (List.zipWith (fun u v => a * u + b * v) x y) = a * a * S2 x + 2 * a * b * Alma.dot x y + b * b * S2 y := by
  induction x generalizing y with
  | nil =>
    obtain rfl := List.length_eq_zero_iff.1 h.symm
    simp [Alma.dot]
  | cons u r ih =>
    cases y with
    | nil => cases h
    | cons v s =>
      simp only [List.zipWith_cons_cons, S2_cons, Alma.dot, ih s (Nat.succ.inj h)]
      ring

/-- n·Σxy − Σx·Σy: n² times the covariance of two lists of length n, n² times the variance for `y = x` -/
def ncov (x y : List α) : α := (x.length : α) * Alma.dot x y - sumL x * sumL y

theorem ncov_self (l : List α) : ncov l l = (l.length : α) * S2 l - sumL l * sumL l := by
  rw [ncov, dot_self]

/-- Σ (x - m)² = S2 - 2 m S1 + n m² -/
theorem sum_sq_dev (m : α) (l : List α) :
    sumL (l.map fun x => sq (x - m)) = S2 l - 2 * m * sumL l + (l.length : α) * m * m := by
  induction l with
  | nil => simp
  | cons x l ih =>
    simp only [List.map_cons, sumL_cons, S2_cons, List.length_cons, ih]
    push_cast
    simp only [sq_eq]
    ring

/-- aggregate invariant (total division: for `l = []` all three are 0, matching the initial / reset state) -/
structure Agg (count : Nat) (mean m2 : α) (l : List α) : Prop where
  hc : count = l.length
  hmean : mean = sumL l / (l.length : α)
  hm2 : m2 = S2 l - sumL l * sumL l / (l.length : α)

theorem agg_nil : Agg 0 (0 : α) 0 [] := ⟨rfl, by simp, by simp⟩
end

variable {α : Type} [Field α] [LinearOrder α] [IsStrictOrderedRing α]

/-- Σ (x - mean)² = S2 - S1²/n -/
theorem sum_sq_dev_mean (l : List α) (hl : l ≠ []) :
    sumL (l.map fun x => sq (x - mean l)) = S2 l - sumL l * sumL l / (l.length : α) := by
  have hn : (l.length : α) ≠ 0 := by exact_mod_cast (List.length_pos_of_ne_nil hl).ne'
  rw [sum_sq_dev]
  simp only [mean, nat_eq]
  field_simp
  ring

/-- the Welford "add" step -/
theorem agg_add (count : Nat) (mean m2 : α) (l : List α) (x : α) (h : Agg count mean m2 l) :
    Agg (count + 1) (mean + (x - mean) / ((count + 1 : Nat) : α))
        (m2 + (x - mean) * (x - (mean + (x - mean) / ((count + 1 : Nat) : α)))) (l ++ [x]) := by
  obtain ⟨rfl, rfl, rfl⟩ := h
  rcases l with _ | ⟨a, l⟩
  · -- l = []: mean = 0/0 = 0 and m2 = 0 by the total-division convention, nothing to clear
    exact ⟨rfl, by simp, by simp⟩
  · have h0 : (((a :: l).length : Nat) : α) ≠ 0 := Nat.cast_ne_zero.2 (List.length_pos_of_ne_nil (List.cons_ne_nil a l)).ne'
    have h1 : (((a :: l).length : Nat) : α) + 1 ≠ 0 := Nat.cast_add_one_ne_zero _
    refine ⟨by simp, ?_, ?_⟩
    · simp only [List.length_append, List.length_singleton, sumL_append, sumL_cons, sumL_nil]
      push_cast
      field_simp
      ring
    · simp only [List.length_append, List.length_singleton, sumL_append, sumL_cons, sumL_nil, S2_append, S2_cons, S2_nil]
      push_cast
      field_simp
      ring

/-- the Welford "remove" step (it divides by count−1; DESIGN.md D4), for a window that stays non-empty -/
theorem agg_remove (count : Nat) (mean m2 : α) (l : List α) (old : α) (h : Agg count mean m2 (old :: l))
    (hl : l ≠ []) :
    Agg (count - 1) (mean - (old - mean) / ((count - 1 : Nat) : α))
        (m2 - (old - mean) * (old - (mean - (old - mean) / ((count - 1 : Nat) : α)))) l := by
  obtain ⟨hc, hm, hm2⟩ := h
  simp only [List.length_cons] at hc
  have hl0 : (l.length : α) ≠ 0 := by exact_mod_cast (List.length_pos_of_ne_nil hl).ne'
  have hl1 : ((l.length : α) + 1) ≠ 0 := Nat.cast_add_one_ne_zero l.length
  have hcm : ((count - 1 : Nat) : α) = l.length := by rw [hc, Nat.add_sub_cancel]
  refine ⟨by simp [hc], ?_, ?_⟩
  · simp only [hcm, hm, sumL_cons, List.length_cons]
    push_cast
    field_simp
    ring
  · simp only [hcm, hm, hm2, sumL_cons, S2_cons, List.length_cons]
    push_cast
    field_simp
    ring

end SF.Moments
