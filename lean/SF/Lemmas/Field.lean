import SF.Lemmas.History
import SF.Spec
import Mathlib.Algebra.Order.Field.Basic
import Mathlib.Tactic.Ring
import Mathlib.Tactic.FieldSimp
import Mathlib.Tactic.Linarith
import Mathlib.Tactic.Positivity
/-
  `ExactScalar`, and the window algebra: `lastN`, the equations of `sumL` (and `sumL_map_nonneg`, the one inequality the view
  files need; the others are in `SpecFacts`), `Alma.dot` (shared by Alma, Cti, Bounds).
  The `Mathlib.Tactic.*` imports are not used here: this file is the prelude of the files about the model at a linearly
  ordered field ("real arithmetic"), which use them.
-/
namespace SF

/-- exact arithmetic: every scalar is finite and none is NaN (true of any field; `Float` is NOT an instance). -/
class ExactScalar (α : Type) [FloatLike α] : Prop where
  finite : ∀ x : α, FloatLike.isFinite x = true
  notNaN : ∀ x : α, FloatLike.isNaN x = false

section
variable {α : Type} [FloatLike α] [ExactScalar α]

@[simp] theorem assertFinite_exact (x : α) : assertFinite x = .ok () :=
  assertFinite_ok (ExactScalar.finite x)

theorem allFinite_exact (xs : List α) : AllFinite xs := fun x _ => ExactScalar.finite x
end

section
variable {α : Type} [Field α]
@[simp] theorem nat_eq (n : Nat) : (nat n : α) = (n : α) := rfl
@[simp] theorem dec_eq (a b : Nat) : (dec a b : α) = (a : α) / (b : α) := rfl
@[simp] theorem sq_eq (x : α) : sq x = x * x := rfl
end

namespace Spec
section
variable {α : Type}

@[simp] theorem lastN_nil (n : Nat) : lastN n ([] : List α) = [] := by simp [lastN]

theorem lastN_length (n : Nat) (xs : List α) : (lastN n xs).length = min n xs.length := by
  simp [lastN]; omega

theorem lastN_getElem? (N : Nat) (xs : List α) (j : Nat) : (lastN N xs)[j]? = xs[xs.length - N + j]? := by
  simp only [lastN, List.getElem?_drop]

/-- the window of a mapped history, between any two types (`lastN_map` in SpecFacts.lean is this at an ordered field) -/
theorem lastN_map' {β : Type} (n : Nat) (f : α → β) (xs : List α) : lastN n (xs.map f) = (lastN n xs).map f := by
  simp [lastN, List.map_drop]

theorem lastN_length_le (n : Nat) (xs : List α) : (lastN n xs).length ≤ n := by
  rw [lastN_length]; omega

theorem lastN_of_le (n : Nat) (xs : List α) (h : xs.length ≤ n) : lastN n xs = xs := by
  simp [lastN, Nat.sub_eq_zero_of_le h]

/-- pushing onto a window, whether it is full or not -/
theorem lastN_snoc (N : Nat) (hN : 0 < N) (xs : List α) (x : α) :
    lastN N (xs ++ [x]) = lastN (N - 1) xs ++ [x] := by
  simp only [lastN, List.length_append, List.length_singleton]
  rw [show xs.length + 1 - N = xs.length - (N - 1) by omega, List.drop_append_of_le_length (by omega)]

/-- The two shapes of a window of length `N`: not yet full (it is the whole history and nothing leaves on the next push),
or full (its head leaves on the next push). -/
theorem lastN_cases (N : Nat) (hN : 0 < N) (xs : List α) :
    (xs.length < N ∧ lastN N xs = xs ∧ lastN (N - 1) xs = xs) ∨
    (∃ old, N ≤ xs.length ∧ lastN N xs = old :: lastN (N - 1) xs ∧ (lastN (N - 1) xs).length + 1 = N) := by
  rcases Nat.lt_or_ge xs.length N with h | h
  · exact .inl ⟨h, lastN_of_le N xs (by omega), lastN_of_le _ xs (by omega)⟩
  · refine .inr ⟨xs[xs.length - N]'(by omega), h, ?_, by rw [lastN_length]; omega⟩
    simp only [lastN]
    rw [List.drop_eq_getElem_cons (by omega), show xs.length - (N - 1) = xs.length - N + 1 by omega]

/-- `if N ≤ q.len() { q.pop_front() }; q.push_back(x)` on the window -/
theorem lastN_push (N : Nat) (hN : 0 < N) (xs : List α) (x : α) :
    (if N ≤ (lastN N xs).length then (lastN N xs).tail else lastN N xs) ++ [x] = lastN N (xs ++ [x]) := by
  rw [lastN_snoc N hN]
  rcases lastN_cases N hN xs with ⟨hlt, hw, hw'⟩ | ⟨old, hle, hw, hlen⟩
  · rw [hw, hw', if_neg (Nat.not_le.mpr hlt)]
  · rw [hw, if_pos (by simp [hlen])]; rfl

/-- the newest value is in the window -/
theorem getLast_lastN (N : Nat) (hN : 0 < N) (xs : List α) : (lastN N xs).getLast? = xs.getLast? := by
  -- `List.getLast?_drop` yields `if xs.length ≤ k then none else xs.getLast?`
  rw [lastN, List.getLast?_drop]
  cases xs with
  | nil => rfl
  | cons a l => rw [if_neg (by simp; omega)]

/-- a deque that is exactly the last `n` values holds at most `n` -/
theorem length_le_of_eq_lastN {n : Nat} {q xs : List α} (h : q = lastN n xs) : q.length ≤ n :=
  h ▸ lastN_length_le n xs

/-- the window is non-empty from the first value on -/
theorem lastN_ne_nil {N : Nat} (hN : 0 < N) {xs : List α} : lastN N xs ≠ [] ↔ 1 ≤ xs.length := by
  rw [Ne, ← List.length_eq_zero_iff, lastN_length]
  omega

/-- what precedes a suffix that covers the window does not matter -/
theorem lastN_append_of_le (N : Nat) (p w : List α) (h : N ≤ w.length) : lastN N (p ++ w) = lastN N w := by
  simp only [lastN, List.length_append]
  rw [show p.length + w.length - N = p.length + (w.length - N) by omega, ← List.drop_drop, List.drop_left]

/-- windows of length `n ≤ k` agree when the windows of length `k` do (both histories at least `k` long) -/
theorem lastN_eq_of_suffix (n k : Nat) (xs ys : List α) (hk : n ≤ k) (h : lastN k xs = lastN k ys)
    (hx : k ≤ xs.length) (hy : k ≤ ys.length) : lastN n xs = lastN n ys := by
  have e : ∀ zs : List α, k ≤ zs.length → lastN n zs = lastN n (lastN k zs) := by
    intro zs hz
    simp only [lastN, List.length_drop, List.drop_drop]
    congr 1; omega
  rw [e xs hx, e ys hy, h]
end

section
variable {α : Type} [Field α]
@[simp] theorem sumL_nil : sumL ([] : List α) = 0 := by simp [sumL]
@[simp] theorem sumL_cons (x : α) (xs : List α) : sumL (x :: xs) = x + sumL xs := rfl
@[simp] theorem sumL_append (xs ys : List α) : sumL (xs ++ ys) = sumL xs + sumL ys := by
  induction xs with
  | nil => simp
  | cons x xs ih => simp [ih, add_assoc]
theorem sumL_tail (xs : List α) (x : α) (r : List α) (h : xs = x :: r) : sumL xs.tail = sumL xs - x := by
  subst h; simp
theorem sumL_map_div (f : α → α) (c : α) (W : List α) : sumL (W.map fun d => f d / c) = sumL (W.map f) / c := by
  induction W with
  | nil => simp
  | cons d W ih => simp [ih, add_div]
theorem sumL_map_eq_zero {β : Type} (f : β → α) (W : List β) (h : ∀ d ∈ W, f d = 0) : sumL (W.map f) = 0 := by
  induction W with
  | nil => simp
  | cons d W ih => simp [h d List.mem_cons_self, ih fun x hx => h x (List.mem_cons_of_mem d hx)]

theorem sumL_map_affine (a b : α) (xs : List α) :
    sumL (xs.map fun x => a * x + b) = a * sumL xs + b * (xs.length : α) := by
  induction xs with
  | nil => simp
  | cons x xs ih => simp [ih]; ring

theorem sumL_map_mul_left {β : Type} (a : α) (g : β → α) (l : List β) :
    sumL (l.map fun x => a * g x) = a * sumL (l.map g) := by
  induction l with
  | nil => simp
  | cons x r ih => simp only [List.map_cons, sumL_cons, ih, mul_add]

theorem sumL_map_mul (a : α) (xs : List α) : sumL (xs.map fun x => a * x) = a * sumL xs := by
  simpa using sumL_map_mul_left a id xs

theorem sumL_zipWith_lin (a b : α) (xs ys : List α) (h : xs.length = ys.length) :
    sumL (List.zipWith (fun x y => a * x + b * y) xs ys) = a * sumL xs + b * sumL ys := by
  induction xs generalizing ys with
  | nil =>
    obtain rfl := List.length_eq_zero_iff.1 h.symm
    simp
  | cons x xs ih =>
    cases ys with
    | nil => cases h
    | cons y ys =>
      simp only [List.zipWith_cons_cons, sumL_cons, ih ys (Nat.succ.inj h)]
      ring

theorem sumL_const (c : α) (n : Nat) : sumL (List.replicate n c) = (n : α) * c := by
  induction n with
  | zero => simp
  | succ n ih => simp [List.replicate_succ, ih]; ring
end

section
variable {α : Type} [Field α] [LinearOrder α] [IsStrictOrderedRing α]
theorem sumL_map_nonneg {β : Type} (g : β → α) (l : List β) (h : ∀ x ∈ l, 0 ≤ g x) : 0 ≤ sumL (l.map g) := by
  induction l with
  | nil => simp
  | cons x r ih => simpa using add_nonneg (h x List.mem_cons_self) (ih fun y hy => h y (List.mem_cons_of_mem _ hy))
end
end Spec

section
variable {α : Type} [Field α] [LinearOrder α]
/-- `.abs()` of a change that is not a gain -/
theorem absv_of_not_pos {d : α} (h : ¬ 0 < d) : absv d = -d := by
  simp only [absv, nat_eq, Nat.cast_zero]
  split
  · rfl
  · next h' => rw [le_antisymm (not_lt.mp h) (not_lt.mp h'), neg_zero]

theorem maxv_of_nonneg (x : α) (h : 0 ≤ x) : maxv x 0 = x := by
  simp only [maxv, not_lt.mpr h, if_false]
end

section
open Spec
variable {α : Type} [Field α]
/-- Σ gᵢ·xᵢ over two lists in step: Alma's weights against its window, the trend indicator's window against the time indices -/
def Alma.dot : List α → List α → α
  | g :: gs, x :: xs => g * x + Alma.dot gs xs
  | _, _ => 0

theorem Alma.dot_eq (gs xs : List α) : Alma.dot gs xs = sumL ((gs.zip xs).map fun (g, x) => g * x) := by
  induction gs generalizing xs with
  | nil => simp [Alma.dot]
  | cons g gs ih => cases xs <;> simp [Alma.dot, ih]

theorem Alma.dot_comm (gs xs : List α) : Alma.dot gs xs = Alma.dot xs gs := by
  induction gs generalizing xs with
  | nil => cases xs <;> rfl
  | cons g gs ih => cases xs with
    | nil => rfl
    | cons x xs => rw [Alma.dot, Alma.dot, ih, mul_comm]

theorem Alma.dot_snoc (gs xs : List α) (g x : α) (h : gs.length = xs.length) :
    Alma.dot (gs ++ [g]) (xs ++ [x]) = Alma.dot gs xs + g * x := by
  induction gs generalizing xs with
  | nil => cases xs <;> simp_all [Alma.dot]
  | cons a gs ih =>
    cases xs with
    | nil => simp at h
    | cons b xs => simp only [List.cons_append, Alma.dot, ih xs (by simpa using h)]; ring

theorem Alma.dot_const (gs : List α) (c : α) : Alma.dot gs (List.replicate gs.length c) = c * sumL gs := by
  induction gs with
  | nil => simp [Alma.dot]
  | cons g gs ih => simp [List.replicate_succ, Alma.dot, ih]; ring

theorem Alma.dot_affine (gs xs : List α) (a b : α) (hlen : gs.length = xs.length) :
    Alma.dot gs (xs.map fun x => a * x + b) = a * Alma.dot gs xs + b * sumL gs := by
  induction gs generalizing xs with
  | nil => cases xs <;> simp_all [Alma.dot]
  | cons g gs ih =>
    cases xs with
    | nil => simp at hlen
    | cons x xs => simp only [List.map_cons, Alma.dot, sumL_cons, ih xs (by simpa using hlen)]; ring
end
end SF
