import SF.Lemmas.Field
import SF.Model.Window
/- Roc: 100(x_t − x_{t−N})/x_{t−N}; base = first value while fewer than N+1 values exist; output held when the base is 0. -/
namespace SF.Roc
open Spec
variable {α : Type} [Field α] [LinearOrder α]

/-- the spec's fold step (x0 = very first value) -/
def stepR (N : Nat) (x0 : α) (acc : Option α × List α) (x : α) : Option α × List α :=
  let hist := acc.2 ++ [x]
  let t := hist.length - 1
  let base := if N ≤ t then hist[t - N]?.getD x0 else x0
  let o := if base == nat 0 then acc.1 else some (nat 100 * (x - base) / base)
  (o, hist)

theorem roc_eq_fold (N : Nat) (x0 : α) (r : List α) : Spec.roc N (x0 :: r) = ((x0 :: r).foldl (stepR N x0) (none, [])).1 := rfl

theorem fold_hist (N : Nat) (x0 : α) (xs : List α) (acc : Option α × List α) :
    (xs.foldl (stepR N x0) acc).2 = acc.2 ++ xs := by
  induction xs generalizing acc with
  | nil => simp
  | cons x xs ih => simp [List.foldl_cons, ih, stepR]

/-- one step of the definition: appending x to a history `x0 :: r` -/
theorem roc_snoc_cons (N : Nat) (x0 : α) (r : List α) (x : α) :
    Spec.roc N (x0 :: r ++ [x]) =
      (let hist := x0 :: r ++ [x]
       let t := hist.length - 1
       let base := if N ≤ t then hist[t - N]?.getD x0 else x0
       if base == nat 0 then Spec.roc N (x0 :: r) else some (nat 100 * (x - base) / base)) := by
  have e : x0 :: r ++ [x] = x0 :: (r ++ [x]) := rfl
  rw [e, roc_eq_fold N x0 (r ++ [x]), roc_eq_fold N x0 r, ← e, List.foldl_append]
  simp only [List.foldl_cons, List.foldl_nil, stepR]
  rw [fold_hist]; simp

/-- the base of the newest output is the oldest of the last N+1 values: the value N steps back, or the first value while
fewer than N+1 exist -/
theorem roc_snoc (N : Nat) (xs : List α) (x : α) :
    Spec.roc N (xs ++ [x]) =
      if (lastN (N + 1) (xs ++ [x])).headD x = 0 then Spec.roc N xs
      else some (100 * (x - (lastN (N + 1) (xs ++ [x])).headD x) / (lastN (N + 1) (xs ++ [x])).headD x) := by
  cases xs with
  | nil => simp [Spec.roc, lastN]
  | cons x0 r =>
    have hl : (x0 :: r ++ [x]).length = r.length + 2 := by simp
    have hb : (if N ≤ r.length + 1 then (x0 :: r ++ [x])[r.length + 1 - N]?.getD x0 else x0) = (lastN (N + 1) (x0 :: r ++ [x])).headD x := by
      rw [lastN, hl, show r.length + 2 - (N + 1) = r.length + 1 - N by omega, List.headD_eq_head?_getD, List.head?_drop]
      split
      · rw [List.getElem?_eq_getElem (by omega)]; rfl
      · rw [Nat.sub_eq_zero_of_le (by omega)]; rfl
    rw [roc_snoc_cons, ← hb]
    simp only [hl, show r.length + 2 - 1 = r.length + 1 from rfl, beq_iff_eq, nat_eq, Nat.cast_zero, Nat.cast_ofNat]

variable [FloatLike α] [ExactScalar α]

/-- the state after the history `xs`; `oldest` is the base of the newest output -/
def st (N : Nat) (xs : List α) : RocState α :=
  { oldest := (lastN (N + 1) xs).head?, q := lastN N xs, out := Spec.roc N xs }

theorem tracks (N : Nat) (hN : 0 < N) : (rocCore (α := α) N).Tracks (st N) where
  init := by simp [st, rocCore, Spec.roc]
  step xs x := by
    have hout := roc_snoc N xs x
    rw [lastN_snoc (N + 1) (by omega), Nat.add_sub_cancel] at hout
    have hst : st N (xs ++ [x]) = { oldest := (lastN N xs ++ [x]).head?, q := lastN (N - 1) xs ++ [x], out := Spec.roc N (xs ++ [x]) } := by
      simp only [st, lastN_snoc (N + 1) (by omega), lastN_snoc N hN, Nat.add_sub_cancel]
    rw [hst, hout]
    rcases lastN_cases N hN xs with ⟨hlt, hw, hw'⟩ | ⟨old, hle, hw, hlen⟩
    · -- not yet full: the base is the first value (the new value itself on the first update)
      have h1 : lastN (N + 1) xs = xs := lastN_of_le _ _ (by omega)
      have hnf : ¬ N ≤ xs.length := by omega
      cases xs with
      | nil => by_cases hz : x = 0 <;> simp [rocCore, st, hN.ne', hz, Spec.roc, pure_eq_ok, ok_bind]
      | cons x0 r =>
        simp only [rocCore, st, hw, hw', h1, hnf, if_false, List.isEmpty_cons, Bool.false_eq_true, List.head?_cons,
          List.headD_cons, List.cons_append, pure_eq_ok, ok_bind, beq_iff_eq, nat_eq, Nat.cast_zero, Nat.cast_ofNat, assertFinite_exact]
        -- the model writes ((v − o)/o)·100, the spec 100·(x − base)/base
        split
        · rfl
        · rw [div_mul_eq_mul_div, mul_comm]
    · -- full: the value that leaves the deque is the new base
      simp only [rocCore, st, hw, hlen, le_refl, if_true, front_cons, List.tail_cons, List.isEmpty_cons, List.head?_cons,
        List.headD_cons, List.cons_append, pure_eq_ok, ok_bind, beq_iff_eq, nat_eq, Nat.cast_zero, Nat.cast_ofNat, assertFinite_exact,
        List.length_cons]
      -- as above: ((v − o)/o)·100 against 100·(x − base)/base
      split
      · rfl
      · rw [div_mul_eq_mul_div, mul_comm]

end SF.Roc
