import SF.Model.Ehlers
import SF.Lemmas.Except
/-
  The checked operations of the model (`popFront`, `front`, `back`, `unwrap`; `usub`, `getIdx`, `fromEnd`) on the inputs the
  views give them: a deque of known shape, an index inside the deque, a deque that has just been pushed to.  And the deque that keeps the newest ≤ N values of a sequence held
  newest first (`(L.take N).reverse`): making room and pushing.
-/
namespace SF
variable {α : Type}

theorem popFront_cons (x : α) (r : List α) : popFront (x :: r) = .ok (x, r) := rfl
theorem front_cons (x : α) (r : List α) : front (x :: r) = .ok x := rfl
theorem unwrap_some {β : Type} (x : β) : unwrap (some x) = .ok x := rfl
theorem back_snoc (l : List α) (x : α) : back (l ++ [x]) = .ok x := by simp [back, pure_eq_ok]

theorem usub_ok {a b : Nat} (h : b ≤ a) : usub a b = .ok (a - b) := if_pos h

theorem getIdx_of_lt (l : List α) (i : Nat) (h : i < l.length) : getIdx l i = .ok l[i] := by
  simp only [getIdx, List.getElem?_eq_getElem h, pure_eq_ok]

/-- the same with the element written `l[i]?.getD d`, as the specifications index -/
theorem getIdx_ok (l : List α) (i : Nat) (d : α) (h : i < l.length) : getIdx l i = .ok (l[i]?.getD d) := by
  rw [getIdx_of_lt l i h, List.getElem?_eq_getElem h, Option.getD_some]

theorem getIdx_cons_succ (x : α) (r : List α) (n : Nat) : getIdx (x :: r) (n + 1) = getIdx r n := by
  simp [getIdx]

theorem getIdx_snoc_lt (l : List α) (a : α) (i : Nat) (h : i < l.length) : getIdx (l ++ [a]) i = getIdx l i := by
  simp only [getIdx, List.getElem?_append_left h]

/-- the newest element of a deque after a push (the index given as any expression for the old length) -/
theorem getIdx_snoc (l : List α) (a : α) {i : Nat} (h : i = l.length) : getIdx (l ++ [a]) i = .ok a := by
  simp only [h, getIdx, List.getElem?_concat_length, pure_eq_ok]

theorem getIdx_snoc_snoc (l : List α) (a b : α) {i : Nat} (h : i = l.length) : getIdx (l ++ [a] ++ [b]) i = .ok a := by
  rw [getIdx_snoc_lt _ _ _ (by simp [h]), getIdx_snoc l a h]

theorem getIdx_snoc_snoc_succ (l : List α) (a b : α) {i : Nat} (h : i = l.length) :
    getIdx (l ++ [a] ++ [b]) (i + 1) = .ok b :=
  getIdx_snoc _ b (by simp [h])

theorem fromEnd_one (l : List α) (a : α) : fromEnd (l ++ [a]) 1 = .ok a := by
  simp only [fromEnd, List.length_append, List.length_singleton, usub_ok (Nat.le_add_left 1 _), Nat.add_sub_cancel, ok_bind,
    getIdx_snoc l a rfl]

theorem fromEnd_succ_snoc (l : List α) (a : α) (k : Nat) (hk : 0 < k) : fromEnd (l ++ [a]) (k + 1) = fromEnd l k := by
  simp only [fromEnd, usub, List.length_append, List.length_singleton, Nat.add_le_add_iff_right, Nat.add_sub_add_right]
  split
  · simp only [pure_eq_ok, ok_bind]
    exact getIdx_snoc_lt l a _ (by omega)
  · rfl

theorem fromEnd_two (l : List α) (a b : α) : fromEnd (l ++ [a] ++ [b]) 2 = .ok a := by
  rw [fromEnd_succ_snoc _ _ 1 Nat.one_pos, fromEnd_one]

theorem take_reverse_nil (N : Nat) : (([] : List α).take N).reverse = [] := by
  rw [List.take_nil, List.reverse_nil]

/-- making room for one more value in a full deque of the N newest leaves the N − 1 newest -/
theorem take_reverse_trim (N : Nat) (hN : 0 < N) (L : List α) :
    (if N ≤ ((L.take N).reverse).length then ((L.take N).reverse).tail else (L.take N).reverse) = (L.take (N - 1)).reverse := by
  simp only [List.length_reverse, List.length_take]
  by_cases h : N ≤ L.length
  · rw [if_pos (by omega), List.tail_reverse, List.dropLast_eq_take, List.take_take, List.length_take]
    congr 2
    omega
  · rw [if_neg (by omega), List.take_of_length_le (by omega), List.take_of_length_le (by omega)]

theorem take_reverse_push (N : Nat) (hN : 0 < N) (L : List α) (f : α) :
    (L.take (N - 1)).reverse ++ [f] = ((f :: L).take N).reverse := by
  obtain ⟨k, rfl⟩ : ∃ k, N = k + 1 := ⟨N - 1, by omega⟩
  rw [List.take_succ_cons, List.reverse_cons, Nat.add_sub_cancel]

/-- the j-th newest entry of the deque is the j-th entry of the newest-first sequence -/
theorem take_reverse_getElem? (L : List α) (k j : Nat) (hj : j < k) (hL : k ≤ L.length) :
    ((L.take k).reverse)[k - 1 - j]? = L[j]? := by
  rw [List.getElem?_reverse (by rw [List.length_take]; omega), List.length_take, Nat.min_eq_left hL,
    List.getElem?_take_of_lt (by omega)]
  congr 1
  omega

end SF
