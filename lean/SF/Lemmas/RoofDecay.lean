import SF.Lemmas.TwoPole
import SF.Lemmas.SsStable
import SF.Lemmas.HighPass
/-
  The RoofingFilter on an input that has become constant (in particular: the difference of two streams that have merged, by
  linearity): a cascade of two contracting sections.  Once three consecutive inputs are equal the high-pass obeys its
  homogeneous double-pole recursion (geometric decay), and the SuperSmoother fed by it follows: a joint functional contracts
  (`roof_joint_decay`, through `Stable.cascade_mean`).  The smoother's own response to a constant input is
  `TwoPole.level_tail_decay`.  (The names are in `SF.DcGain`, as are `Vc` in TwoPole.lean and `ssTheta` in HighPass.lean.)
-/
namespace SF.DcGain
open TwoPole DoublePole

/-- the homogeneous case (c = d = 0) of `Stable.cascade`, at ℝ -/
theorem cascade_step (ρ σ r κ V U V' U' : ℝ) (hρ : ρ ≤ r) (hσ : σ < r) (hκ : 0 ≤ κ) (hV0 : 0 ≤ V) (_hU0 : 0 ≤ U)
    (hV : V' ≤ ρ * V + κ * U) (hU : U' ≤ σ * U) :
    V' + κ / (r - σ) * U' ≤ r * (V + κ / (r - σ) * U) := by
  simpa using Stable.cascade ρ σ r κ V U V' U' 0 0 hρ hσ hκ hV0 (by simpa using hV) (by simpa using hU)

/-- Lyapunov functional of the high-pass state (double real pole p = 1 − α) -/
noncomputable def Uh (N : Nat) (st : List ℝ × ℝ × ℝ) : ℝ :=
  |st.1.headD 0| + 2 * |roofPole N| / (1 - |roofPole N|) * |st.1.headD 0 - roofPole N * st.1.tail.headD 0|

theorem abs_head_le_Uh (N : Nat) (hN : 2 ≤ N) (st : List ℝ × ℝ × ℝ) : |st.1.headD 0| ≤ Uh N st := by
  have h1 := roofPole_abs_lt_one N hN
  have : 0 ≤ 2 * |roofPole N| / (1 - |roofPole N|) * |st.1.headD 0 - roofPole N * st.1.tail.headD 0| :=
    mul_nonneg (div_nonneg (by positivity) (by linarith)) (abs_nonneg _)
  simp only [Uh]; linarith

theorem Uh_nonneg (N : Nat) (hN : 2 ≤ N) (st : List ℝ × ℝ × ℝ) : 0 ≤ Uh N st :=
  le_trans (abs_nonneg _) (abs_head_le_Uh N hN st)

/-- the value the high-pass appends when the last three inputs are equal: the homogeneous double-pole recursion -/
theorem hpNext_const (N : Nat) (st : List ℝ × ℝ × ℝ) (c0 : ℝ) (h : st.2 = (c0, c0)) :
    Roof.hpNext N st c0 = 2 * roofPole N * st.1.headD 0 - roofPole N * roofPole N * st.1.tail.headD 0 := by
  obtain ⟨l, x1, x2⟩ := st
  simp only [Prod.mk.injEq] at h
  obtain ⟨rfl, rfl⟩ := h
  simp only [Roof.hpNext, nat_eq, sq_eq, Nat.cast_ofNat, Nat.cast_one, Nat.cast_zero, roofPole]
  ring

/-- one more constant input contracts the high-pass functional by (1+ρ₁)/2, ρ₁ = |1 − α| < 1 -/
theorem hp_const_step (N : Nat) (hN : 2 ≤ N) (l : List ℝ) (c0 : ℝ) (h : (Roof.hpFold N l).2 = (c0, c0)) :
    Uh N (Roof.hpFold N (l ++ [c0])) ≤ (1 + |roofPole N|) / 2 * Uh N (Roof.hpFold N l)
      ∧ (Roof.hpFold N (l ++ [c0])).2 = (c0, c0) := by
  rw [Roof.hpFold_snoc, hpNext_const N _ c0 h]
  refine ⟨?_, by rw [h]⟩
  simp only [Uh, List.headD_cons, List.tail_cons]
  exact contraction (roofPole N) |roofPole N| _ _ (abs_nonneg _) (roofPole_abs_lt_one N hN) (le_refl _)

/-- joint contraction factor of RoofingFilter(N, M): the slower of the smoother's (1+a₁)/2 and a rate strictly between the
high-pass's (1+ρ₁)/2 and 1 -/
noncomputable def roofRate (N M : Nat) : ℝ := max ((1 + SsStable.ssA M) / 2) ((1 + (1 + |roofPole N|) / 2) / 2)
/-- the factor (1 + λ)·|c1| of `TwoPole.V_snoc` by which the smoother's functional takes up its input -/
noncomputable def roofKappa (M : Nat) : ℝ :=
  (1 + 2 * SsStable.ssA M / (1 - SsStable.ssA M)) * |(Spec.ssCoef (α := ℝ) M).c1|
/-- the weight M = κ/(r − σ) of `Stable.cascade` that the high-pass functional gets in the joint one -/
noncomputable def roofWeight (N M : Nat) : ℝ := roofKappa M / (roofRate N M - (1 + |roofPole N|) / 2)
/-- joint Lyapunov functional of RoofingFilter(N, M) after the history l -/
noncomputable def roofW (N M : Nat) (l : List ℝ) : ℝ :=
  V (pole (SsStable.ssA M) (ssTheta M)) (SsStable.ssA M) (SS.foldState (Spec.ssCoef (α := ℝ) M) 0 (Roof.fed N l))
    + roofWeight N M * Uh N (Roof.hpFold N l)

theorem roofRate_lt_one (N M : Nat) (hN : 2 ≤ N) (hM : 0 < M) : 0 < roofRate N M ∧ roofRate N M < 1 := by
  have ha := SsStable.ssA_range M hM
  have hρ := roofPole_abs_lt_one N hN
  refine ⟨lt_of_lt_of_le (by linarith only [ha.1]) (le_max_left _ _), max_lt (Stable.mid_lt_one ha.2).2 ?_⟩
  exact (Stable.mid_lt_one (Stable.mid_lt_one hρ).2).2

/-- the high-pass's own rate (1+ρ₁)/2 lies strictly below the joint rate -/
theorem hpRate_lt_roofRate (N M : Nat) (hN : 2 ≤ N) : (1 + |roofPole N|) / 2 < roofRate N M :=
  lt_of_lt_of_le (Stable.mid_lt_one (Stable.mid_lt_one (roofPole_abs_lt_one N hN)).2).1 (le_max_right _ _)

theorem roofKappa_nonneg (M : Nat) (hM : 0 < M) : 0 ≤ roofKappa M := by
  have ha := SsStable.ssA_range M hM
  have : 0 ≤ 2 * SsStable.ssA M / (1 - SsStable.ssA M) := div_nonneg (by linarith only [ha.1]) (by linarith only [ha.2])
  exact mul_nonneg (by linarith only [this]) (abs_nonneg _)

theorem roofWeight_nonneg (N M : Nat) (hN : 2 ≤ N) (hM : 0 < M) : 0 ≤ roofWeight N M :=
  div_nonneg (roofKappa_nonneg M hM) (sub_nonneg.2 (hpRate_lt_roofRate N M hN).le)

/-- **one step of the joint contraction**: the history `l` already ends in two equal values c0, c0 (so the
high-pass sees a vanishing second difference from now on) and is longer than the high-pass delay N + 1 -/
theorem roof_joint_step (N M : Nat) (hN : 2 ≤ N) (hM : 0 < M) (l : List ℝ) (c0 : ℝ) (hl : N + 1 < l.length)
    (h : (Roof.hpFold N l).2 = (c0, c0)) :
    roofW N M (l ++ [c0]) ≤ roofRate N M * roofW N M l := by
  have ha := SsStable.ssA_range M hM
  have hc := SsStable.ssCoef_form M
  obtain ⟨hU, -⟩ := hp_const_step N hN l c0 h
  set H := Roof.hpFold N l
  -- the smoother's step: its input term c1·(hn + h)/2 is made of the newest two high-pass values hn, h
  -- (`ssTheta M` unfolds to the literal angle of `ssCoef_form`)
  have hV := V_snoc (Spec.ssCoef M) (SsStable.ssA M) (ssTheta M) ha.1.le ha.2 hc.1 hc.2 0 (Roof.fed N l)
    (Roof.hpNext N H c0)
  rw [Roof.fed_prev N _ _ _ hl] at hV
  -- each is dominated by the high-pass functional of its time
  have hh : |H.1.headD 0| ≤ Uh N H := abs_head_le_Uh N hN H
  have hhn := abs_head_le_Uh N hN (Roof.hpFold N (l ++ [c0]))
  rw [show (Roof.hpFold N (l ++ [c0])).1.headD 0 = Roof.hpNext N H c0 by rw [Roof.hpFold_snoc]; rfl] at hhn
  rw [roofW, roofW, Roof.fed_snoc, if_pos (by omega)]
  exact Stable.cascade_mean ((1 + SsStable.ssA M) / 2) ((1 + |roofPole N|) / 2) (roofRate N M) (roofKappa M)
    (le_max_left _ _) (hpRate_lt_roofRate N M hN) (Stable.mid_lt_one (roofPole_abs_lt_one N hN)).2.le (roofKappa_nonneg M hM)
    (le_trans (abs_nonneg _) (abs_head_le_V _ _ ha.1.le ha.2 _)) (Uh_nonneg N hN H) hV hh hhn hU

/-- **geometric decay of the whole RoofingFilter on an input that has become constant**: history `l ++ [c0, c0]`
followed by k more values c0 -/
theorem roof_joint_decay (N M : Nat) (hN : 2 ≤ N) (hM : 0 < M) (l : List ℝ) (c0 : ℝ) (hl : N < (l ++ [c0]).length) (k : Nat) :
    roofW N M (l ++ [c0] ++ [c0] ++ List.replicate k c0) ≤ roofRate N M ^ k * roofW N M (l ++ [c0] ++ [c0])
    ∧ (Roof.hpFold N (l ++ [c0] ++ [c0] ++ List.replicate k c0)).2 = (c0, c0) := by
  have hc : ∀ k, (Roof.hpFold N (l ++ [c0] ++ [c0] ++ List.replicate k c0)).2 = (c0, c0) := fun k => by
    induction k with
    | zero => rw [List.replicate_zero, List.append_nil, Roof.hpFold_snoc, Roof.hpFold_snoc]
    | succ k ih => rw [List.replicate_succ', ← List.append_assoc]; exact (hp_const_step N hN _ c0 ih).2
  refine ⟨?_, hc k⟩
  simpa using Stable.le_geom (u := fun k => roofW N M (l ++ [c0] ++ [c0] ++ List.replicate k c0))
    (roofRate_lt_one N M hN hM).1.le k fun i _ => by
      rw [List.replicate_succ', ← List.append_assoc]
      exact roof_joint_step N M hN hM _ c0 (by simp at hl ⊢; omega) (hc i)

/-- the joint functional dominates the filter's output -/
theorem abs_roofing_le_W (N M : Nat) (hN : 2 ≤ N) (hM : 0 < M) (l : List ℝ) (v : ℝ) (h : Spec.roofing N M l = some v) :
    |v| ≤ roofW N M l := by
  have ha := SsStable.ssA_range M hM
  have h1 := abs_head_le_V (pole (SsStable.ssA M) (ssTheta M)) (SsStable.ssA M) ha.1.le ha.2
    (SS.foldState (Spec.ssCoef (α := ℝ) M) 0 (Roof.fed N l))
  rw [SS.headD_of_superSmoother M (Roof.fed N l) v h] at h1
  have h2 : 0 ≤ roofWeight N M * Uh N (Roof.hpFold N l) := mul_nonneg (roofWeight_nonneg N M hN hM) (Uh_nonneg N hN _)
  simp only [roofW]
  linarith

end SF.DcGain
