import SF.Lemmas.Field
import SF.Lemmas.Index
/- LaguerreRSI: after two zero-fill steps the four (length-≤3) deques hold the Laguerre ladder started from zeros;
   value = CU/(CU+CD), held while CU+CD = 0; the value lies in [0,1]; at most 12 stored entries. -/
namespace SF.LagRsi
open SF.Spec

variable {α : Type} [Field α]

/-- the state during the two fill steps -/
def zeros (k : Nat) : LagRsiState α :=
  { value := none, l0s := List.replicate k (nat 0), l1s := List.replicate k (nat 0), l2s := List.replicate k (nat 0),
    l3s := List.replicate k (nat 0) }

theorem trim_zeros (k : Nat) (hk : k < 3) : lagRsiTrim (zeros (α := α) k) = zeros k := by
  rw [lagRsiTrim, if_neg]
  rw [zeros, List.length_replicate]
  omega

theorem fill_zeros (k : Nat) : lagRsiFill (zeros (α := α) k) = zeros (k + 1) := by
  simp only [lagRsiFill, zeros, List.replicate_succ']

/-- one ladder step on deques that end in the current stage values (all four of the same length): the indices `prev`,
`prev + 1` of the code read exactly those values and the ones just pushed -/
theorem push_snoc (g : α) (v : Option α) (p0 p1 p2 p3 : List α) (L0 L1 L2 L3 x : α)
    (h1 : p1.length = p0.length) (h2 : p2.length = p0.length) (h3 : p3.length = p0.length) :
    lagRsiPush g { value := v, l0s := p0 ++ [L0], l1s := p1 ++ [L1], l2s := p2 ++ [L2], l3s := p3 ++ [L3] } x =
      .ok (let n0 := (nat 1 - g) * x + g * L0
           let n1 := -g * n0 + L0 + g * L1
           let n2 := -g * n1 + L1 + g * L2
           let n3 := -g * n2 + L2 + g * L3
           { value := v, l0s := p0 ++ [L0] ++ [n0], l1s := p1 ++ [L1] ++ [n1], l2s := p2 ++ [L2] ++ [n2],
             l3s := p3 ++ [L3] ++ [n3] }) := by
  simp only [lagRsiPush, List.length_append, List.length_singleton, usub_ok (Nat.le_add_left 1 _), Nat.add_sub_cancel,
    ok_bind, pure_eq_ok, getIdx_snoc, getIdx_snoc_snoc, h1, h2, h3]

variable [LinearOrder α]

/-- `Spec.laguerreRsi`'s local `up` and `dn`, summed over the three adjacent pairs: (CU, CD).  They, the step and the fold
are lifted out of the batch definition word for word, which is why `spec_eq` is `rfl`. -/
def cucd (x0 x1 x2 x3 : α) : α × α :=
  let up := fun (a b : α) => if b ≤ a then a - b else nat 0
  let dn := fun (a b : α) => if b ≤ a then nat 0 else b - a
  (up x0 x1 + up x1 x2 + up x2 x3, dn x0 x1 + dn x1 x2 + dn x2 x3)

theorem model_cucd (x0 x1 x2 x3 : α) : lagRsiCuCd x0 x1 x2 x3 = cucd x0 x1 x2 x3 := by
  unfold lagRsiCuCd cucd
  have h0 : (nat 0 : α) = 0 := by simp [nat_eq]
  rw [h0]
  by_cases h1 : x1 ≤ x0 <;> by_cases h2 : x2 ≤ x1 <;> by_cases h3 : x3 ≤ x2 <;>
    simp only [h1, h2, h3, if_true, if_false, add_zero, zero_add]

/-- one step of the batch definition: the ladder advances, the value is CU/(CU+CD) or is held -/
def stepS (g : α) (acc : (α × α × α × α) × Option α) (x : α) : (α × α × α × α) × Option α :=
  let s := lagLadder g acc.1 [x]
  let c := cucd s.1 s.2.1 s.2.2.1 s.2.2.2
  (s, if c.1 + c.2 == nat 0 then acc.2 else some (c.1 / (c.1 + c.2)))

/-- (ladder, value) of the batch definition after `xs`; the first two values only fill the deques -/
def specState (N : Nat) (xs : List α) : (α × α × α × α) × Option α :=
  (xs.drop 2).foldl (stepS (nat 2 / (nat N + nat 1))) ((nat 0, nat 0, nat 0, nat 0), none)

theorem spec_eq (N : Nat) (xs : List α) : Spec.laguerreRsi N xs = (specState N xs).2 := rfl

theorem specState_snoc (N : Nat) (xs : List α) (x : α) (h : 2 ≤ xs.length) :
    specState N (xs ++ [x]) = stepS (nat 2 / (nat N + nat 1)) (specState N xs) x := by
  unfold specState
  rw [List.drop_append_of_le_length h, List.foldl_append]; rfl

/-- the state after the history `xs`: zeros while the deques fill; then every deque holds the stage's values after the last three
histories (a history of at most two values has left the ladder at its zeros) -/
def st (N : Nat) (xs : List α) : LagRsiState α :=
  if xs.length < 3 then zeros xs.length
  else
    let a := (specState N xs.dropLast.dropLast).1
    let b := (specState N xs.dropLast).1
    let c := specState N xs
    { value := c.2, l0s := [a.1, b.1, c.1.1], l1s := [a.2.1, b.2.1, c.1.2.1], l2s := [a.2.2.1, b.2.2.1, c.1.2.2.1],
      l3s := [a.2.2.2, b.2.2.2, c.1.2.2.2] }

/-- past the fill a step starts from deques that hold the previous and the current ladder values -/
theorem trim_st (N : Nat) (xs : List α) (h : 2 ≤ xs.length) : lagRsiTrim (st N xs) =
    { value := (specState N xs).2, l0s := [(specState N xs.dropLast).1.1, (specState N xs).1.1],
      l1s := [(specState N xs.dropLast).1.2.1, (specState N xs).1.2.1],
      l2s := [(specState N xs.dropLast).1.2.2.1, (specState N xs).1.2.2.1],
      l3s := [(specState N xs.dropLast).1.2.2.2, (specState N xs).1.2.2.2] } := by
  by_cases h3 : xs.length < 3
  · -- two values: the batch definition has not yet consumed one
    rw [st, if_pos h3, show xs.length = 2 by omega, trim_zeros 2 (by omega), specState, specState,
      List.drop_eq_nil_of_le (by omega), List.drop_eq_nil_of_le (by rw [List.length_dropLast]; omega)]
    rfl
  · rw [st, if_neg h3]; rfl

section view
variable [FloatLike α]

theorem out_st (N : Nat) (xs : List α) : (lagRsiCore N).out (st N xs) = .ok (Spec.laguerreRsi N xs) := by
  show pure (st N xs).value = _
  rw [spec_eq, st]
  split
  · rw [specState, List.drop_eq_nil_of_le (by omega)]; rfl
  · rfl

/-- at most three entries in each of the four ladder deques, whatever the stream length -/
theorem size_st_le (N : Nat) (xs : List α) : (lagRsiCore (α := α) N).size (st N xs) ≤ 12 := by
  show (st N xs).l0s.length + (st N xs).l1s.length + (st N xs).l2s.length + (st N xs).l3s.length ≤ 12
  rw [st]
  split
  · simp only [zeros, List.length_replicate]; omega
  · exact le_refl 12

variable [ExactScalar α]

theorem emit_three (v : Option α) (a0 a1 a2 a3 b0 b1 b2 b3 n0 n1 n2 n3 : α) :
    lagRsiEmit { value := v, l0s := [a0, b0, n0], l1s := [a1, b1, n1], l2s := [a2, b2, n2], l3s := [a3, b3, n3] } =
      .ok { value := (if (cucd n0 n1 n2 n3).1 + (cucd n0 n1 n2 n3).2 == nat 0 then v
                      else some ((cucd n0 n1 n2 n3).1 / ((cucd n0 n1 n2 n3).1 + (cucd n0 n1 n2 n3).2))),
            l0s := [a0, b0, n0], l1s := [a1, b1, n1], l2s := [a2, b2, n2], l3s := [a3, b3, n3] } := by
  have hget : ∀ a b c : α, getIdx [a, b, c] 2 = .ok c := fun _ _ _ => rfl
  simp only [lagRsiEmit, List.length_cons, List.length_nil, Nat.zero_add, Nat.reduceAdd, usub_ok (by decide : 1 ≤ 3),
    Nat.reduceSub, hget, ok_bind, pure_eq_ok, model_cucd, assertFinite_exact]
  by_cases hz : (cucd n0 n1 n2 n3).1 + (cucd n0 n1 n2 n3).2 = 0
  · simp [hz, nat_eq]
  · simp [hz, nat_eq]

theorem tracks (N : Nat) : (lagRsiCore (α := α) N).Tracks (st N) where
  init := rfl
  step xs x := by
    have hlx : (xs ++ [x]).length = xs.length + 1 := by rw [List.length_append, List.length_singleton]
    by_cases hlt : xs.length < 2
    · -- a fill step: zeros k ↦ zeros (k + 1)
      rw [st, if_pos (by omega), st, if_pos (by omega), hlx]
      show (let s := lagRsiTrim (zeros xs.length); if s.l0s.length < 2 then pure (lagRsiFill s) else _) = _
      simp only [trim_zeros xs.length (by omega)]
      rw [if_pos (by rwa [zeros, List.length_replicate]), fill_zeros]
      rfl
    · have hge : 2 ≤ xs.length := by omega
      have ht := trim_st N xs hge
      have hstep : (lagRsiCore N).step (st N xs) x =
          (lagRsiPush (nat 2 / (nat N + nat 1)) (lagRsiTrim (st N xs)) x >>= lagRsiEmit) := by
        show (let s := lagRsiTrim (st N xs); if s.l0s.length < 2 then pure (lagRsiFill s) else _) = _
        simp only [ht]
        rw [if_neg (by simp)]
      rw [hstep, ht, st, if_neg (by omega), List.dropLast_concat, specState_snoc N xs x hge]
      -- name the components of the spec's state, so that its step computes
      generalize specState N xs = c
      generalize (specState N xs.dropLast).1 = b
      obtain ⟨⟨l0, l1, l2, l3⟩, v⟩ := c
      have hpush := push_snoc (nat 2 / (nat N + nat 1)) v [b.1] [b.2.1] [b.2.2.1] [b.2.2.2] l0 l1 l2 l3 x rfl rfl rfl
      simp only [List.cons_append, List.nil_append] at hpush
      rw [hpush, ok_bind, emit_three]
      rfl

end view

/-! range: CU, CD ≥ 0, so the held value lies in [0,1] -/
variable [IsStrictOrderedRing α]

theorem cucd_nonneg (x0 x1 x2 x3 : α) : 0 ≤ (cucd x0 x1 x2 x3).1 ∧ 0 ≤ (cucd x0 x1 x2 x3).2 := by
  have up : ∀ a b : α, 0 ≤ (if b ≤ a then a - b else nat 0) := by
    intro a b; split
    · linarith
    · simp [nat_eq]
  have dn : ∀ a b : α, 0 ≤ (if b ≤ a then nat 0 else b - a) := by
    intro a b; split
    · simp [nat_eq]
    · linarith
  constructor
  · exact add_nonneg (add_nonneg (up _ _) (up _ _)) (up _ _)
  · exact add_nonneg (add_nonneg (dn _ _) (dn _ _)) (dn _ _)

theorem stepS_range (g : α) (acc : (α × α × α × α) × Option α) (x : α)
    (h : ∀ v, acc.2 = some v → 0 ≤ v ∧ v ≤ 1) : ∀ v, (stepS g acc x).2 = some v → 0 ≤ v ∧ v ≤ 1 := by
  intro v hv
  set s := lagLadder g acc.1 [x]
  obtain ⟨hcu, hcd⟩ := cucd_nonneg s.1 s.2.1 s.2.2.1 s.2.2.2
  simp only [stepS] at hv
  generalize cucd s.1 s.2.1 s.2.2.1 s.2.2.2 = c at hv hcu hcd
  by_cases hz : c.1 + c.2 = 0
  · rw [if_pos (by simp [hz, nat_eq])] at hv
    exact h v hv
  · rw [if_neg (by simp [hz, nat_eq])] at hv
    cases hv
    have hpos : 0 < c.1 + c.2 := lt_of_le_of_ne (add_nonneg hcu hcd) (Ne.symm hz)
    exact ⟨div_nonneg hcu hpos.le, by rw [div_le_one hpos]; linarith⟩

end SF.LagRsi
