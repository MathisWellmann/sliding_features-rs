import SF.Lemmas.Stable
import SF.Lemmas.SpecFacts
/-
  LaguerreFilter, 0 ≤ γ < 1: a one-pole low-pass L0 followed by three first-order all-pass sections with pole γ.
  Bounded input ⇒ bounded output with the length-independent bound κ³·B, κ = (1+γ)/(1−γ); and once two input streams
  coincide, the four stage differences decay geometrically.
-/
namespace SF.LagfStable
open SF.Spec
variable {α : Type} [Field α] [LinearOrder α] [IsStrictOrderedRing α]

theorem abs_stage (g a b c : α) (hg : 0 ≤ g) : |-g * a + b + g * c| ≤ g * |a| + |b| + g * |c| := by
  calc |-g * a + b + g * c| ≤ |-g * a| + |b| + |g * c| := abs_add_three _ _ _
    _ = g * |a| + |b| + g * |c| := by rw [abs_mul, abs_mul, abs_neg, abs_of_nonneg hg]

/-- one all-pass stage n = −γ·a + b + γ·c with |a|,|b| ≤ K, |c| ≤ K' and (1+γ)K + γK' ≤ K' stays within K' -/
theorem allpass_step (g K K' a b c : α) (hg : 0 ≤ g) (ha : |a| ≤ K) (hb : |b| ≤ K) (hc : |c| ≤ K')
    (hK : (1 + g) * K + g * K' ≤ K') : |-g * a + b + g * c| ≤ K' := by
  have := abs_stage g a b c hg
  have := mul_le_mul_of_nonneg_left ha hg
  have := mul_le_mul_of_nonneg_left hc hg
  linarith

/-- the low-pass stage is a convex combination -/
theorem lowpass_step (g B x l : α) (hg0 : 0 ≤ g) (hg1 : g ≤ 1) (hx : |x| ≤ B) (hl : |l| ≤ B) :
    |(1 - g) * x + g * l| ≤ B := by
  calc |(1 - g) * x + g * l| ≤ |(1 - g) * x| + |g * l| := abs_add_le _ _
    _ = (1 - g) * |x| + g * |l| := by rw [abs_mul, abs_mul, abs_of_nonneg hg0, abs_of_nonneg (sub_nonneg.2 hg1)]
    _ ≤ (1 - g) * B + g * B := add_le_add (mul_le_mul_of_nonneg_left hx (sub_nonneg.2 hg1)) (mul_le_mul_of_nonneg_left hl hg0)
    _ = B := by ring

/-- the four stage bounds B, κB, κ²B, κ³B are preserved by every step of the ladder -/
theorem ladder_bounds (g B : α) (hg0 : 0 ≤ g) (hg1 : g < 1) (init : α × α × α × α) (xs : List α)
    (hx : ∀ x ∈ xs, |x| ≤ B)
    (h0 : |init.1| ≤ B) (h1 : |init.2.1| ≤ (1 + g) / (1 - g) * B)
    (h2 : |init.2.2.1| ≤ (1 + g) / (1 - g) * ((1 + g) / (1 - g) * B))
    (h3 : |init.2.2.2| ≤ (1 + g) / (1 - g) * ((1 + g) / (1 - g) * ((1 + g) / (1 - g) * B))) :
    let s := lagLadder g init xs
    |s.1| ≤ B ∧ |s.2.1| ≤ (1 + g) / (1 - g) * B ∧ |s.2.2.1| ≤ (1 + g) / (1 - g) * ((1 + g) / (1 - g) * B) ∧
      |s.2.2.2| ≤ (1 + g) / (1 - g) * ((1 + g) / (1 - g) * ((1 + g) / (1 - g) * B)) := by
  have h1g : 0 < 1 - g := by linarith
  set κ := (1 + g) / (1 - g) with hκ
  have eK : ∀ K : α, (1 + g) * K + g * (κ * K) = κ * K := by intro K; rw [hκ]; field_simp; ring
  refine foldl_invariant (fun s : α × α × α × α => |s.1| ≤ B ∧ |s.2.1| ≤ κ * B ∧ |s.2.2.1| ≤ κ * (κ * B) ∧
    |s.2.2.2| ≤ κ * (κ * (κ * B))) xs (fun s x hxm ⟨i0, i1, i2, i3⟩ => ?_) init ⟨h0, h1, h2, h3⟩
  simp only [nat_eq, Nat.cast_one]
  have n0 : |(1 - g) * x + g * s.1| ≤ B := lowpass_step g B x s.1 hg0 hg1.le (hx x hxm) i0
  have n1 := allpass_step g B (κ * B) _ s.1 s.2.1 hg0 n0 i0 i1 (le_of_eq (eK B))
  have n2 := allpass_step g (κ * B) (κ * (κ * B)) _ s.2.1 s.2.2.1 hg0 n1 i1 i2 (le_of_eq (eK _))
  have n3 := allpass_step g (κ * (κ * B)) (κ * (κ * (κ * B))) _ s.2.2.1 s.2.2.2 hg0 n2 i2 i3 (le_of_eq (eK _))
  exact ⟨n0, n1, n2, n3⟩

/-! ### fading memory -/
/-- the weighted norm |l0| + ε|l1| + ε²|l2| + ε³|l3| -/
def V (e : α) (s : α × α × α × α) : α := |s.1| + e * |s.2.1| + e * e * |s.2.2.1| + e * e * e * |s.2.2.2|

/-- componentwise difference of two ladder states -/
def D (s t : α × α × α × α) : α × α × α × α := (s.1 - t.1, s.2.1 - t.2.1, s.2.2.1 - t.2.2.1, s.2.2.2 - t.2.2.2)

/-- a chain of four stages, each a one-pole section with pole g driven by the stage before (its new value weighted g, its old
value 1), the first undriven.  Aᵢ are the sizes before a step, Bᵢ after.  With weights 1, e, e², e³, 4e ≤ 1 − g, the weighted
sum contracts by (1+g)/2. -/
theorem weighted_chain (g e A0 A1 A2 A3 B0 B1 B2 B3 : α) (hg0 : 0 ≤ g) (hg1 : g ≤ 1) (he0 : 0 ≤ e) (he : 4 * e ≤ 1 - g)
    (hA0 : 0 ≤ A0) (hA1 : 0 ≤ A1) (hA2 : 0 ≤ A2) (hA3 : 0 ≤ A3) (hB3 : 0 ≤ B3)
    (h0 : B0 ≤ g * A0) (h1 : B1 ≤ g * B0 + A0 + g * A1) (h2 : B2 ≤ g * B1 + A1 + g * A2) (h3 : B3 ≤ g * B2 + A2 + g * A3) :
    B0 + e * B1 + e * e * B2 + e * e * e * B3 ≤ (1 + g) / 2 * (A0 + e * A1 + e * e * A2 + e * e * e * A3) := by
  have hee : 0 ≤ e * e := mul_nonneg he0 he0
  have heee : 0 ≤ e * e * e := mul_nonneg hee he0
  have hT : 0 ≤ A0 + e * A1 + e * e * A2 + e * e * e * A3 :=
    add_nonneg (add_nonneg (add_nonneg hA0 (mul_nonneg he0 hA1)) (mul_nonneg hee hA2)) (mul_nonneg heee hA3)
  set S := B0 + e * B1 + e * e * B2 + e * e * e * B3 with hS
  set T := A0 + e * A1 + e * e * A2 + e * e * e * A3 with hT'
  -- the stage inequalities summed with the weights: the driving terms are e·(T − e³A3) and g·e·(S − e³B3)
  have hsum : S ≤ (g + e) * T + g * e * S := by
    have p1 := mul_le_mul_of_nonneg_left h1 he0
    have p2 := mul_le_mul_of_nonneg_left h2 hee
    have p3 := mul_le_mul_of_nonneg_left h3 heee
    have q1 := mul_nonneg (mul_nonneg he0 heee) hA3
    have q2 := mul_nonneg (mul_nonneg (mul_nonneg hg0 he0) heee) hB3
    rw [hS, hT']
    linarith only [h0, p1, p2, p3, q1, q2]
  -- g + e ≤ (1+g)/2 · (1 − g·e), from g·e ≤ e, (1+g)/2 ≤ 1 and 4e ≤ 1 − g
  have hge : g * e ≤ e := mul_le_of_le_one_left he0 hg1
  have hc : g + e ≤ (1 + g) / 2 * (1 - g * e) := by
    have := mul_le_of_le_one_left (mul_nonneg hg0 he0) (show (1 + g) / 2 ≤ 1 by linarith only [hg1])
    linarith only [this, hge, he, he0]
  have := mul_le_mul_of_nonneg_right hc hT
  refine le_of_mul_le_mul_left ?_ (show 0 < 1 - g * e by linarith only [hge, he, hg0])
  linarith only [hsum, this]

/-- **fed the same value, two ladders' stage differences contract by ρ = (1+γ)/2 in the weighted norm**, ε = (1−γ)/8:
the differences obey the ladder recursion with input 0.  Any ε ≤ (1−γ)/4 would do; 8 is the value C09 states. -/
theorem step_contracts (g : α) (hg0 : 0 ≤ g) (hg1 : g < 1) (s t : α × α × α × α) (x : α) :
    V ((1 - g) / 8) (D (lagLadder g s [x]) (lagLadder g t [x])) ≤ (1 + g) / 2 * V ((1 - g) / 8) (D s t) := by
  have e : D (lagLadder g s [x]) (lagLadder g t [x]) =
      (let d := D s t
       let n0 := g * d.1
       let n1 := -g * n0 + d.1 + g * d.2.1
       let n2 := -g * n1 + d.2.1 + g * d.2.2.1
       (n0, n1, n2, -g * n2 + d.2.2.1 + g * d.2.2.2)) := by
    simp only [lagLadder, List.foldl_cons, List.foldl_nil, D, nat_eq, Nat.cast_one]
    refine Prod.ext (by ring) (Prod.ext (by ring) (Prod.ext (by ring) (by ring)))
  rw [e]
  exact weighted_chain g ((1 - g) / 8) _ _ _ _ _ _ _ _ hg0 hg1.le (by linarith) (by linarith)
    (abs_nonneg _) (abs_nonneg _) (abs_nonneg _) (abs_nonneg _) (abs_nonneg _)
    (by rw [abs_mul, abs_of_nonneg hg0]) (abs_stage g _ _ _ hg0) (abs_stage g _ _ _ hg0) (abs_stage g _ _ _ hg0)

/-- **fading memory of the Laguerre ladder**: two runs that receive the same inputs `t` from some point on — their stage
differences, measured in the weighted norm, shrink by ρ = (1+γ)/2 at every step: geometric convergence, for every 0 ≤ γ < 1 -/
theorem ladder_fading (g : α) (hg0 : 0 ≤ g) (hg1 : g < 1) (s1 s2 : α × α × α × α) (t : List α) :
    V ((1 - g) / 8) (D (lagLadder g s1 t) (lagLadder g s2 t)) ≤ ((1 + g) / 2) ^ t.length * V ((1 - g) / 8) (D s1 s2) :=
  Stable.foldl_geom (fun s s' => V ((1 - g) / 8) (D s s')) _ (by linarith) (step_contracts g hg0 hg1) s1 s2 t

/-- for 0 ≤ e ≤ 1 the weights 1 ≥ e ≥ e² ≥ e³ of `V` are all at least e³ -/
theorem cube_mul_le_V (e : α) (he0 : 0 ≤ e) (he1 : e ≤ 1) (s : α × α × α × α) :
    e * e * e * (|s.1| + |s.2.1| + |s.2.2.1| + |s.2.2.2|) ≤ V e s := by
  have h2 : e * e ≤ e := mul_le_of_le_one_left he0 he1
  have h3 : e * e * e ≤ e * e := mul_le_of_le_one_right (mul_nonneg he0 he0) he1
  have t0 := mul_le_mul_of_nonneg_right (h3.trans (h2.trans he1)) (abs_nonneg s.1)
  have t1 := mul_le_mul_of_nonneg_right (h3.trans h2) (abs_nonneg s.2.1)
  have t2 := mul_le_mul_of_nonneg_right h3 (abs_nonneg s.2.2.1)
  rw [V, mul_add, mul_add, mul_add]
  linarith

/-- the difference of the two outputs (L0 + 2L1 + 2L2 + L3)/6 is dominated by the norm of the stage differences -/
theorem out_diff_le (g : α) (hg0 : 0 ≤ g) (hg1 : g < 1) (s t : α × α × α × α) :
    |(s.1 + 2 * s.2.1 + 2 * s.2.2.1 + s.2.2.2) / 6 - (t.1 + 2 * t.2.1 + 2 * t.2.2.1 + t.2.2.2) / 6| * (((1 - g) / 8) * ((1 - g) / 8) * ((1 - g) / 8))
      ≤ V ((1 - g) / 8) (D s t) := by
  have he0 : 0 ≤ (1 - g) / 8 := by linarith
  have e0 : (s.1 + 2 * s.2.1 + 2 * s.2.2.1 + s.2.2.2) / 6 - (t.1 + 2 * t.2.1 + 2 * t.2.2.1 + t.2.2.2) / 6
      = ((D s t).1 + 2 * (D s t).2.1 + 2 * (D s t).2.2.1 + (D s t).2.2.2) / 6 := by simp only [D]; ring
  rw [e0, mul_comm]
  refine (mul_le_mul_of_nonneg_left ((Stable.abs_tap_le _ _ _ _).trans ?_) (mul_nonneg (mul_nonneg he0 he0) he0)).trans
    (cube_mul_le_V _ he0 (by linarith) _)
  rw [div_le_iff₀ (by norm_num)]
  linarith only [abs_nonneg (D s t).1, abs_nonneg (D s t).2.1, abs_nonneg (D s t).2.2.1, abs_nonneg (D s t).2.2.2]

end SF.LagfStable
