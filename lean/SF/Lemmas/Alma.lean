import SF.Lemmas.Field
import SF.Model.Window
/- Alma: running weighted sums = Σ gᵢxᵢ and Σ gᵢ over exactly the window, the sample with absolute index i carrying the
   Gaussian weight of kernel position min(i, N−1).  `dot` (Σ gᵢxᵢ) and `dot_eq` are in Field.lean. -/
namespace SF.Alma
open Spec

section
variable {α : Type}

/-- the spec's weight/value pairs are the zipped windows -/
theorem zipIdx_map_eq (h : Nat → α) (l : List α) (k : Nat) :
    (l.zipIdx k).map (fun (x, j) => (h j, x)) = List.zip ((List.range' k l.length).map h) l := by
  induction l generalizing k with
  | nil => simp
  | cons x r ih => simp [List.zipIdx_cons, List.range'_succ, ih (k + 1)]

end

section
variable {α : Type} [Field α] [Transc α]

/-- weights of all samples so far (absolute index i ↦ g(min i (N−1))) -/
def W (N : Nat) (m s : α) (len : Nat) : List α := (List.range len).map fun i => gauss m s (min i (N - 1))

theorem W_succ (N : Nat) (m s : α) (len : Nat) : W N m s (len + 1) = W N m s len ++ [gauss m s (min len (N - 1))] := by
  simp [W, List.range_succ]

@[simp] theorem W_length (N : Nat) (m s : α) (len : Nat) : (W N m s len).length = len := by simp [W]

/-- the weights of the window, by position in the window -/
theorem lastN_W (N : Nat) (m sd : α) (len : Nat) :
    lastN N (W N m sd len) =
      (List.range' 0 (min N len)).map fun j => gauss m sd (min (len - min N len + j) (N - 1)) := by
  simp only [lastN, W, List.length_map, List.length_range, ← List.map_drop]
  rw [List.range_eq_range', List.drop_range', List.range'_eq_map_range, List.range'_eq_map_range, List.map_map, List.map_map,
    show len - (len - N) = min N len by omega]
  refine List.map_congr_left fun j _ => ?_
  simp only [Function.comp_apply, Nat.zero_add]
  congr 2; omega

/-- **the definition, with the weights the state keeps**: Σ gᵢxᵢ / Σ gᵢ over the window -/
theorem spec_eq_wmean (N : Nat) (sigma offset : α) (xs : List α) (hx : xs ≠ []) :
    Spec.alma N sigma offset xs =
      some (dot (lastN N (W N (offset * (nat N + nat 1)) (nat N / sigma) xs.length)) (lastN N xs) /
        sumL (lastN N (W N (offset * (nat N + nat 1)) (nat N / sigma) xs.length))) := by
  have hxe : xs.isEmpty = false := by simpa using hx
  have hlen : (lastN N (W N (offset * (nat N + nat 1)) (nat N / sigma) xs.length)).length = (lastN N xs).length := by
    rw [lastN_length, lastN_length, W_length]
  simp only [Spec.alma, hxe, Bool.false_eq_true, if_false]
  rw [zipIdx_map_eq (fun j => gauss (offset * (nat N + nat 1)) (nat N / sigma) (min (xs.length - (lastN N xs).length + j) (N - 1))),
    lastN_length, ← lastN_W, ← dot_eq, show (fun (p : α × α) => match p with | (g, _) => g) = Prod.fst from rfl,
    List.map_fst_zip hlen.le]

/-- `qOut` is constrained only through `hout` (its newest entry is the current weighted mean) and `hlen` -/
structure Inv (N : Nat) (m sd : α) (s : AlmaState α) (xs : List α) : Prop where
  hq : s.qVals = lastN N xs
  hw : s.qWtd = lastN N (W N m sd xs.length)
  hsum : s.wtdSum = dot s.qWtd s.qVals
  hcum : s.cumWt = sumL s.qWtd
  hout : s.qOut.getLast? = if xs = [] then none else some (s.wtdSum / s.cumWt)
  hlen : s.qOut.length = s.qVals.length

theorem Inv.size_le {N : Nat} {m sd : α} {s : AlmaState α} {xs : List α} (h : Inv N m sd s xs) :
    s.qVals.length + s.qWtd.length + s.qOut.length ≤ 3 * N := by
  have h1 : s.qVals.length ≤ N := length_le_of_eq_lastN h.hq
  have h2 : s.qWtd.length ≤ N := length_le_of_eq_lastN h.hw
  have h3 := h.hlen
  omega

end

section
variable {α : Type} [Field α] [LinearOrder α] [IsStrictOrderedRing α] [FloatLike α] [ExactScalar α] [Transc α]
set_option linter.unusedSectionVars false
theorem gauss_eq_weight (m s : α) (k : Nat) : almaWeight m s k = gauss m s k := rfl
end

section
variable {α : Type} [Field α] [FloatLike α] [Transc α]

theorem init_inv (N : Nat) (sigma offset m sd : α) : Inv N m sd (almaCore N sigma offset).init [] :=
  ⟨by simp [almaCore], by simp [almaCore, W], by simp [almaCore, dot], by simp [almaCore], by simp [almaCore], rfl⟩

variable [ExactScalar α]

theorem step_ok (N : Nat) (hN : 0 < N) (sigma offset : α) (s : AlmaState α) (xs : List α) (x : α)
    (h : Inv N (offset * ((N : α) + 1)) ((N : α) / sigma) s xs) :
    ∃ s', (almaCore N sigma offset).step s x = .ok s' ∧ Inv N (offset * ((N : α) + 1)) ((N : α) / sigma) s' (xs ++ [x]) := by
  obtain ⟨hq, hw, hsum, hcum, hout, hlen⟩ := h
  set m := offset * ((N : α) + 1) with hm
  set sd := (N : α) / sigma with hsd
  have hgw : ∀ k, almaWeight m sd k = gauss m sd k := fun _ => rfl
  -- the values and the weights move through parallel windows: the same case for both
  have hWl : (W N m sd xs.length).length = xs.length := W_length N m sd xs.length
  have hVs := lastN_snoc N hN xs x
  have hWs : lastN N (W N m sd (xs ++ [x]).length)
      = lastN (N - 1) (W N m sd xs.length) ++ [gauss m sd (min xs.length (N - 1))] := by
    rw [List.length_append, List.length_singleton, W_succ, lastN_snoc N hN]
  rcases lastN_cases N hN xs with ⟨hlt, hv, hv'⟩ | ⟨ov, hle, hv, hvl⟩
  · obtain ⟨-, hg, hg'⟩ := (lastN_cases N hN (W N m sd xs.length)).resolve_right
      (fun ⟨_, h, _⟩ => absurd (hWl ▸ h) (by omega))
    rw [hv] at hq; rw [hg] at hw
    have hnf : ¬ N ≤ xs.length := Nat.not_le.mpr hlt
    set g := gauss m sd xs.length with hgd
    refine ⟨{ wtdSum := s.wtdSum + g * x, cumWt := s.cumWt + g, qVals := s.qVals ++ [x], qWtd := s.qWtd ++ [g],
              qOut := s.qOut ++ [(s.wtdSum + g * x) / (s.cumWt + g)] }, ?_, ?_⟩
    · simp only [almaCore, nat_eq, Nat.cast_one, hnf, if_false, ok_bind, pure_eq_ok, hgw, assertFinite_exact,
        ← hm, ← hsd, hq, hgd]
    · refine ⟨by rw [hVs, hv', hq], by rw [hWs, hg', hw, Nat.min_eq_left (by omega)], ?_, ?_, by simp, by simp [hlen]⟩
      · show s.wtdSum + g * x = dot (s.qWtd ++ [g]) (s.qVals ++ [x])
        rw [dot_snoc _ _ _ _ (by rw [hw, hq, hWl]), hsum]
      · show s.cumWt + g = sumL (s.qWtd ++ [g])
        rw [hcum, sumL_append]; simp
  · obtain ⟨ow, -, hg, hgl⟩ := (lastN_cases N hN (W N m sd xs.length)).resolve_left
      (fun h => absurd (hWl ▸ h.1) (by omega))
    rw [hv] at hq; rw [hg] at hw
    have hfull : N ≤ (ov :: lastN (N - 1) xs).length := by simp [hvl]
    set g := gauss m sd (N - 1) with hgd
    refine ⟨{ wtdSum := s.wtdSum - ow * ov + g * x, cumWt := s.cumWt - ow + g, qVals := lastN (N - 1) xs ++ [x],
              qWtd := lastN (N - 1) (W N m sd xs.length) ++ [g],
              qOut := s.qOut.tail ++ [(s.wtdSum - ow * ov + g * x) / (s.cumWt - ow + g)] }, ?_, ?_⟩
    · simp only [almaCore, nat_eq, Nat.cast_one, hfull, if_true, hq, hw, front_cons, List.tail_cons, ok_bind, pure_eq_ok,
        hgw, assertFinite_exact, ← hm, ← hsd, hgd, show (lastN (N - 1) xs).length = N - 1 by omega]
    · refine ⟨hVs.symm, by rw [hWs, Nat.min_eq_right (by omega)], ?_, ?_, by simp, by simp [hlen, hq]⟩
      · show s.wtdSum - ow * ov + g * x = dot (lastN (N - 1) (W N m sd xs.length) ++ [g]) (lastN (N - 1) xs ++ [x])
        rw [dot_snoc _ _ _ _ (by omega), hsum, hw, hq]; simp [dot]
      · show s.cumWt - ow + g = sumL (lastN (N - 1) (W N m sd xs.length) ++ [g])
        rw [hcum, hw]; simp

theorem run_ok (N : Nat) (hN : 0 < N) (sigma offset : α) (xs : List α) :
    ∃ s, (almaCore (α := α) N sigma offset).run (almaCore (α := α) N sigma offset).init xs = .ok s ∧
      Inv N (offset * ((N : α) + 1)) ((N : α) / sigma) s xs :=
  Core.run_invariant_init (almaCore N sigma offset) (Inv N (offset * ((N : α) + 1)) ((N : α) / sigma))
    (init_inv N sigma offset _ _) (fun s pre x h => step_ok N hN sigma offset s pre x h) xs

end

/-! ### positive weights: Σ gᵢxᵢ lies between the bounds of the values times Σ gᵢ, and is monotone in the values -/
section
variable {α : Type} [Field α] [LinearOrder α] [IsStrictOrderedRing α]

def Pos (gs : List α) : Prop := ∀ g ∈ gs, 0 < g

theorem dot_bounds (gs xs : List α) (hlen : gs.length = xs.length) (hp : Pos gs) (lo hi : α)
    (hlo : ∀ x ∈ xs, lo ≤ x) (hhi : ∀ x ∈ xs, x ≤ hi) : lo * sumL gs ≤ dot gs xs ∧ dot gs xs ≤ hi * sumL gs := by
  induction gs generalizing xs with
  | nil => cases xs <;> simp_all [dot]
  | cons g gs ih =>
    cases xs with
    | nil => simp at hlen
    | cons x xs =>
      have hg := hp g (by simp)
      have := ih xs (by simpa using hlen) (fun y hy => hp y (by simp [hy])) (fun y hy => hlo y (by simp [hy]))
        (fun y hy => hhi y (by simp [hy]))
      have h1 := mul_le_mul_of_nonneg_left (hlo x (by simp)) hg.le
      have h2 := mul_le_mul_of_nonneg_left (hhi x (by simp)) hg.le
      simp only [dot, sumL_cons, mul_add, mul_comm lo g, mul_comm hi g]
      exact ⟨add_le_add h1 this.1, add_le_add h2 this.2⟩

theorem dot_mono (gs xs ys : List α) (hp : Pos gs) (h : List.Forall₂ (· ≤ ·) xs ys) : dot gs xs ≤ dot gs ys := by
  induction h generalizing gs with
  | nil => cases gs <;> simp [dot]
  | @cons a b l r hab _ ih =>
    cases gs with
    | nil => simp [dot]
    | cons g gs =>
      have hg := hp g (by simp)
      have := ih gs (fun y hy => hp y (by simp [hy]))
      exact add_le_add (mul_le_mul_of_nonneg_left hab hg.le) this

end

end SF.Alma
