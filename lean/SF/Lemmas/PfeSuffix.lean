import SF.Lemmas.Pfe
/-
  PolarizedFractalEfficiency over an M-window moving average forgets everything older than N + M − 1 values:
  the last M ratios are exactly the ratios of the last N + M − 1 values.
-/
namespace SF.PfeSuffix
open Spec Pfe

section
variable {α : Type} [Field α] [LinearOrder α] [Transc α]

/-- the ratio sequence, indexed: entry j is the ratio at time j + N − 1 -/
theorem ratios_range (N : Nat) (hN : 1 ≤ N) (xs : List α) :
    pfeRatios N xs = (List.range (xs.length + 1 - N)).map fun j => ratioAt N xs (j + (N - 1)) := by
  induction xs using List.reverseRecOn with
  | nil =>
    have : 1 - N = 0 := by omega
    simp [pfeRatios_def, this]
  | append_singleton xs x ih =>
    rw [pfeRatios_snoc N hN, ih]
    by_cases hlt : xs.length + 1 < N
    · rw [if_pos hlt]
      have e1 : xs.length + 1 - N = 0 := by omega
      have e2 : (xs ++ [x]).length + 1 - N = 0 := by simp; omega
      rw [e1, e2]; simp
    · rw [if_neg hlt]
      have e2 : (xs ++ [x]).length + 1 - N = (xs.length + 1 - N) + 1 := by simp; omega
      rw [e2, List.range_succ, List.map_append]
      congr 1
      · apply List.map_congr_left
        intro j hj
        rw [List.mem_range] at hj
        rw [ratioAt_prefix N hN xs x _ (by omega)]
      · simp only [List.map_cons, List.map_nil]
        congr 2; omega

theorem ratios_length (N : Nat) (hN : 1 ≤ N) (xs : List α) : (pfeRatios N xs).length = xs.length + 1 - N := by
  rw [ratios_range N hN]; simp

/-- the last M ratios are the ratios of the last N + M − 1 values -/
theorem lastN_ratios (N M' : Nat) (hN : 2 ≤ N) (hM : 1 ≤ M') (xs : List α) (hK : N + M' - 1 ≤ xs.length) :
    lastN M' (pfeRatios N xs) = pfeRatios N (lastN (N + M' - 1) xs) := by
  have hl : (lastN (N + M' - 1) xs).length + 1 - N = M' := by rw [lastN_length]; omega
  rw [lastN, ratios_length N (by omega), ratios_range N (by omega), ratios_range N (by omega), hl, ← List.map_drop,
    List.range_eq_range', List.drop_range', show xs.length + 1 - N - (xs.length + 1 - N - M') = M' by omega,
    List.range'_eq_map_range, List.map_map]
  refine List.map_congr_left fun j _ => ?_
  -- with `d = xs.length − (N+M'−1)`: the ratio of `xs` at time `d + j + (N−1)` is that of `xs` without its first `d` values
  -- at time `j + (N−1)`
  rw [Function.comp_apply, ratioAt_shift N (by omega) xs (lastN (N + M' - 1) xs) (xs.length - (N + M' - 1)) _
    (fun i hi => by omega) (fun i hi _ => by rw [lastN_getElem?]; congr 1; omega)]
  congr 1
  omega

end

variable {α : Type} [Field α] [LinearOrder α] [IsStrictOrderedRing α] [FloatLike α] [ExactScalar α] [Transc α]

set_option linter.unusedSectionVars false in
/-- **PFE over an M-window simple moving average is a function of the last N + M − 1 values** -/
theorem pfe_sma_suffix (N M' : Nat) (hN : 3 ≤ N) (hM : 1 ≤ M') (xs ys : List α)
    (hx : N + M' - 1 ≤ xs.length) (hy : N + M' - 1 ≤ ys.length) (h : lastN (N + M' - 1) xs = lastN (N + M' - 1) ys) :
    Spec.pfe N (Spec.sma M') xs = Spec.pfe N (Spec.sma M') ys := by
  -- on either history the ratios are at least M' long, so the average is over the last M' of them
  have key : ∀ zs : List α, N + M' - 1 ≤ zs.length →
      Spec.pfe N (Spec.sma M') zs = Spec.sma M' (pfeRatios N (lastN (N + M' - 1) zs)) := fun zs hz => by
    have hl := ratios_length N (by omega) zs
    have hl' := ratios_length N (by omega) (lastN (N + M' - 1) zs)
    rw [lastN_length] at hl'
    have hne : (pfeRatios N zs).isEmpty = false := by
      rw [List.isEmpty_eq_false_iff, ← List.length_pos_iff, hl]; omega
    simp only [Spec.pfe, hne, Bool.false_eq_true, if_false]
    rw [sma_spec M' _ (by omega), sma_spec M' _ (by omega), lastN_ratios N M' (by omega) hM zs hz, lastN_of_le M' _ (by omega)]
  rw [key xs hx, key ys hy, h]

end SF.PfeSuffix
