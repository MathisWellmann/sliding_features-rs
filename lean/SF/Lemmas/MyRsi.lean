import SF.Lemmas.Rsi
/- MyRSI: cu / cd are G and L over the N most recent changes; the output is (G−L)/(G+L), held while G+L = 0. -/
namespace SF.MyRsi
open Spec Rsi
variable {α : Type} [Field α] [LinearOrder α]

/-- the held output after appending one value -/
theorem myRsiHold_snoc (N : Nat) (xs : List α) (x : α) :
    Spec.myRsiHold N (xs ++ [x]) =
      (if Spec.gains N (xs ++ [x]) + Spec.losses N (xs ++ [x]) = 0 then Spec.myRsiHold N xs
       else (Spec.gains N (xs ++ [x]) - Spec.losses N (xs ++ [x])) / (Spec.gains N (xs ++ [x]) + Spec.losses N (xs ++ [x]))) := by
  simp only [Spec.myRsiHold, List.length_append, List.length_singleton, List.range_succ, List.foldl_append,
    List.foldl_cons, List.foldl_nil]
  have htake : (xs ++ [x]).take (xs.length + 1) = xs ++ [x] := by
    rw [List.take_of_length_le]; simp
  rw [htake]
  have hpre : (List.range xs.length).foldl (fun prev t =>
        if Spec.gains N ((xs ++ [x]).take (t + 1)) + Spec.losses N ((xs ++ [x]).take (t + 1)) == nat 0 then prev
        else (Spec.gains N ((xs ++ [x]).take (t + 1)) - Spec.losses N ((xs ++ [x]).take (t + 1))) /
             (Spec.gains N ((xs ++ [x]).take (t + 1)) + Spec.losses N ((xs ++ [x]).take (t + 1)))) (nat 0)
      = (List.range xs.length).foldl (fun prev t =>
        if Spec.gains N (xs.take (t + 1)) + Spec.losses N (xs.take (t + 1)) == nat 0 then prev
        else (Spec.gains N (xs.take (t + 1)) - Spec.losses N (xs.take (t + 1))) /
             (Spec.gains N (xs.take (t + 1)) + Spec.losses N (xs.take (t + 1)))) (nat 0) := by
    -- on the old indices the prefix `take (t + 1)` does not reach the new value
    apply List.foldl_ext
    intro prev t ht
    have : t + 1 ≤ xs.length := by have := List.mem_range.mp ht; omega
    rw [List.take_append_of_le_length this]
  rw [hpre]
  by_cases h : Spec.gains N (xs ++ [x]) + Spec.losses N (xs ++ [x]) = 0 <;> simp [h]

/-! ### the update as a composition of pure stages -/
def reset (s : MyRsiState α) (v : α) : MyRsiState α :=
  if s.q.isEmpty then { s with oldestVal := v, lastVal := v } else s

def evict (s : MyRsiState α) : MyRsiState α :=
  match s.q with
  | [] => s
  | old :: rest => { s with q := rest, cu := s.cu - gp (old - s.oldestVal), cd := s.cd - lp (old - s.oldestVal), oldestVal := old }

def push (s : MyRsiState α) (v : α) : MyRsiState α :=
  { s with q := s.q ++ [v], cu := s.cu + gp (v - s.lastVal), cd := s.cd + lp (v - s.lastVal), lastVal := v }

def emit (s : MyRsiState α) : MyRsiState α :=
  if s.cu + s.cd = 0 then s else { s with out := (s.cu - s.cd) / (s.cu + s.cd) }

/-- the state after the history `xs` -/
def st (N : Nat) (xs : List α) : MyRsiState α :=
  { cu := acc N gp xs, cd := acc N lp xs, out := Spec.myRsiHold N xs, q := lastN N xs, lastVal := (xs.getLast?).getD 0,
    oldestVal := ref N xs }

/-- the last stage publishes the spec's held value -/
theorem emit_st (N : Nat) (xs : List α) (x : α) :
    emit { st N (xs ++ [x]) with out := Spec.myRsiHold N xs } = st N (xs ++ [x]) := by
  have hG : Spec.gains N (xs ++ [x]) = acc N gp (xs ++ [x]) := gains_eq N _
  have hL : Spec.losses N (xs ++ [x]) = acc N lp (xs ++ [x]) := losses_eq N _
  unfold emit
  split
  · next hz => simp only [st]; rw [myRsiHold_snoc, hG, hL, if_pos (show acc N gp (xs ++ [x]) + acc N lp (xs ++ [x]) = 0 from hz)]
  · next hz => simp only [st]; rw [myRsiHold_snoc, hG, hL, if_neg (show ¬ acc N gp (xs ++ [x]) + acc N lp (xs ++ [x]) = 0 from hz)]

variable [IsStrictOrderedRing α] [FloatLike α]

/-- The update is `emit ∘ push ∘ (evict if the window is full) ∘ reset`: the clamp `.max(0)` after a removal is the identity
whenever the running sums stay non-negative — which they do in exact arithmetic, being sums of non-negative parts
(`Rsi.acc_snoc_full`) -/
theorem step_eq (N : Nat) (hN : 0 < N) (s : MyRsiState α) (v : α)
    (hnn : N ≤ (reset s v).q.length → 0 ≤ (evict (reset s v)).cu ∧ 0 ≤ (evict (reset s v)).cd) :
    (myRsiCore N).step s v = .ok (emit (push (if N ≤ (reset s v).q.length then evict (reset s v) else reset s v) v)) := by
  simp only [myRsiCore, nat_eq, Nat.cast_zero]
  rw [show (if s.q.isEmpty = true then ({ s with oldestVal := v, lastVal := v } : MyRsiState α) else s) = reset s v from rfl]
  revert hnn; generalize reset s v = s0; intro hnn
  by_cases hfull : N ≤ s0.q.length
  · obtain ⟨old, rest, hq⟩ := List.exists_cons_of_length_pos (hN.trans_le hfull)
    have hn := hnn hfull
    simp only [evict, hq] at hn
    rw [hq] at hfull
    -- `hn` makes the clamps disappear (`maxv_of_nonneg`); the rest is the same tests on both sides
    by_cases h1 : s0.oldestVal < old
    · -- a gain leaves: `cu` is clamped
      simp only [gp, lp, sub_pos, h1, if_true, sub_zero] at hn
      by_cases h2 : s0.lastVal < v <;>
        simp only [hfull, hq, evict, push, emit, gp, lp, sub_pos, h1, h2, if_true, if_false, popFront_cons, ok_bind, pure_eq_ok,
          maxv_of_nonneg _ hn.1, sub_zero, add_zero, neg_sub, add_sub_assoc, Bool.not_eq_true',
          beq_eq_false_iff_ne, ne_eq, ite_not]
    · -- a loss leaves: `cd` is clamped
      simp only [gp, lp, sub_pos, h1, if_false, sub_zero, neg_sub] at hn
      by_cases h2 : s0.lastVal < v <;>
        simp only [hfull, hq, evict, push, emit, gp, lp, sub_pos, h1, h2, if_true, if_false, popFront_cons, ok_bind, pure_eq_ok,
          maxv_of_nonneg _ hn.2, sub_zero, add_zero, neg_sub, add_sub_assoc, Bool.not_eq_true',
          beq_eq_false_iff_ne, ne_eq, ite_not]
  · by_cases h2 : s0.lastVal < v <;>
      simp only [hfull, push, emit, gp, lp, sub_pos, h2, if_true, if_false, ok_bind, pure_eq_ok, add_zero, neg_sub, add_sub_assoc,
        Bool.not_eq_true', beq_eq_false_iff_ne, ne_eq, ite_not]

variable [ExactScalar α]

theorem tracks (N : Nat) (hN : 0 < N) : (myRsiCore (α := α) N).Tracks (st N) where
  init := by
    -- `init` is restated so that it alone is unfolded, not the whole core
    show st N [] = { cu := nat 0, cd := nat 0, out := nat 0, q := [], lastVal := nat 0, oldestVal := nat 0 }
    simp [st, acc, ref, changes, Spec.myRsiHold]
  step xs x := by
    -- reset / evict / push give the new state but for its output, and the accumulators stay non-negative through a removal
    have key : push (if N ≤ (reset (st N xs) x).q.length then evict (reset (st N xs) x) else reset (st N xs) x) x
          = { st N (xs ++ [x]) with out := Spec.myRsiHold N xs } ∧
        (N ≤ (reset (st N xs) x).q.length → 0 ≤ (evict (reset (st N xs) x)).cu ∧ 0 ≤ (evict (reset (st N xs) x)).cd) := by
      unfold push
      rcases eq_or_ne xs [] with rfl | hx
      · -- the very first value resets both references to itself; its change is 0
        have ha : ∀ f : α → α, acc N f [x] = acc N f [] + f 0 := fun f => by simpa using acc_snoc_lt N hN f [] x hN
        have hrf : ref N [x] = x := by simpa using ref_snoc N [] x
        simp [reset, st, ha, hrf, lastN_of_le N [x] hN, Nat.not_le.mpr hN]
      · have hlast : (xs.getLast?).getD x = (xs.getLast?).getD 0 := by rw [List.getLast?_eq_some_getLast hx]; rfl
        have hr : reset (st N xs) x = st N xs := by
          simp [reset, st, (lastN_ne_nil hN).mpr (List.length_pos_of_ne_nil hx)]
        rw [hr]
        rcases lastN_cases N hN xs with ⟨hlt, hw, hw'⟩ | ⟨old, hle, hw, hlen⟩
        · -- the window is still filling
          have hnf : ¬ N ≤ (st N xs).q.length := by simp only [st, hw]; omega
          rw [if_neg hnf]
          refine ⟨?_, fun h => absurd h hnf⟩
          simp only [st, acc_snoc_lt N hN _ xs x hlt, hlast, ref_snoc_lt N xs x hx hlt, lastN_snoc N hN, hw', hw,
            List.getLast?_concat, Option.getD_some]
        · -- a full window: the oldest value leaves, and with it the oldest change
          obtain ⟨hg, hgn⟩ := acc_snoc_full N hN gp gp_nonneg xs x old _ hle hw
          obtain ⟨hl, hln⟩ := acc_snoc_full N hN lp lp_nonneg xs x old _ hle hw
          have hfull : N ≤ (st N xs).q.length := by simp [st, hw, hlen]
          rw [if_pos hfull]
          simp only [evict, st, hw]
          refine ⟨?_, fun _ => ⟨hgn, hln⟩⟩
          simp only [hg, hl, hlast, ref_snoc, hw, lastN_snoc N hN, List.getLast?_concat, Option.getD_some, List.cons_append,
            List.headD_cons]
    rw [show (myRsiCore N).step (st N xs) x = _ from step_eq N hN (st N xs) x key.2, key.1, emit_st]

omit [IsStrictOrderedRing α] in
theorem out_st (N : Nat) (xs : List α) : (myRsiCore N).out (st N xs) = .ok (Spec.myRsi N xs) := by
  -- `out` is restated so that it alone is unfolded, not the whole core (which is slow to check)
  show (if (st N xs).q.length < N then pure none else do assertFinite (st N xs).out; pure (some (st N xs).out)) = _
  by_cases hlt : xs.length < N
  · simp [st, Spec.myRsi, lastN_length, hlt, Nat.min_eq_right hlt.le, pure_eq_ok]
  · simp [st, Spec.myRsi, lastN_length, hlt, Nat.min_eq_left (Nat.le_of_not_lt hlt), pure_eq_ok, ok_bind]

/-- **MyRSI = (G−L)/(G+L) over the N most recent changes, previous output kept while G+L = 0, from the N-th value on** -/
theorem outAfter_eq (N : Nat) (hN : 0 < N) (xs : List α) :
    (myRsiCore (α := α) N).outAfter xs = .ok (Spec.myRsi N xs) := by
  rw [(tracks N hN).outAfter, out_st]

end SF.MyRsi
