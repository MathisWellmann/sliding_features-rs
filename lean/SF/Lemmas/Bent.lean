import SF.Lemmas.Field
import SF.Lemmas.Index
import SF.Model.Window
/- BinaryEntropy: `p` counts the non-negative values among exactly the last N; output = Shannon entropy of p/n. -/
namespace SF.Bent
open Spec
variable {α : Type} [Field α] [LinearOrder α]

def cnt (l : List α) : Nat := (l.filter fun x => nat 0 ≤ x).length

theorem cnt_cons (x : α) (l : List α) : cnt (x :: l) = cnt l + (if (0 : α) ≤ x then 1 else 0) := by
  simp only [cnt, List.filter_cons, nat_eq, Nat.cast_zero]
  by_cases h : (0 : α) ≤ x <;> simp [h]

theorem cnt_append (l r : List α) : cnt (l ++ r) = cnt l + cnt r := by simp [cnt]

section
set_option linter.unusedSectionVars false
variable [IsStrictOrderedRing α] [FloatLike α] [ExactScalar α] [Transc α]
theorem cnt_reverse (l : List α) : cnt l.reverse = cnt l := by simp [cnt, List.filter_reverse]
end

/-- `0 · log2 0` needs no special case in a field: the product is 0 anyway -/
theorem guard_eq [Transc α] (p : α) : (if p == nat 0 then nat 0 else p * Transc.log2 p) = p * Transc.log2 p := by
  by_cases hz : p = 0 <;> simp [hz]

/-- the state after the history `xs` (the deque is kept newest first) -/
def st (N : Nat) (xs : List α) : BentState α := { q := (lastN N xs).reverse, p := cnt (lastN N xs) }

variable [FloatLike α] [Transc α]

theorem tracks (N : Nat) (hN : 0 < N) : (bentCore (α := α) N).Tracks (st N) where
  init := by simp [st, bentCore, cnt]
  step xs x := by
    -- the new value is counted if it is non-negative
    have hx : (if nat 0 ≤ x then cnt (lastN (N - 1) xs) + 1 else cnt (lastN (N - 1) xs)) = cnt (lastN (N - 1) xs ++ [x]) := by
      rw [cnt_append, cnt_cons, nat_eq, Nat.cast_zero]
      split <;> simp [cnt]
    rw [st, st, lastN_snoc N hN, List.reverse_append, List.reverse_singleton, List.singleton_append, ← hx]
    rcases lastN_cases N hN xs with ⟨hlt, hw, hw'⟩ | ⟨old, hle, hw, hlen⟩
    · simp only [bentCore, hw, hw', List.length_reverse, Nat.not_le.mpr hlt, if_false, ok_bind, pure_eq_ok]
    · -- full window: the oldest value sits at the back and takes its count with it
      have hfull : N ≤ (lastN (N - 1) xs).length + 1 := hlen.ge
      simp only [bentCore, hw, List.reverse_cons, List.length_append, List.length_reverse, List.length_singleton, hfull, if_true,
        back_snoc, List.dropLast_concat, ok_bind, pure_eq_ok, cnt_cons, nat_eq, Nat.cast_zero]
      split
      · simp only [usub_ok (Nat.le_add_left 1 _), Nat.add_sub_cancel, ok_bind]
      · simp only [Nat.add_zero, ok_bind]

variable [ExactScalar α]

theorem out_st (N : Nat) (xs : List α) : (bentCore N).out (st N xs) = .ok (Spec.entropy N xs) := by
  -- `out` is restated so that it alone is unfolded, not the whole core (which is slow to check)
  show (if (st N xs).q.isEmpty then pure none else
    let pt : α := nat (st N xs).p / nat (st N xs).q.length
    let pn := nat 1 - pt
    let value := pt * Transc.log2 pt + pn * Transc.log2 pn
    let value := if FloatLike.isNaN value then nat 0 else value
    pure (some (-value))) = _
  by_cases he : lastN N xs = []
  · simp [st, Spec.entropy, he, pure_eq_ok]
  · have hwe : (lastN N xs).isEmpty = false := by simpa using he
    simp only [st, Spec.entropy, List.isEmpty_reverse, hwe, Bool.false_eq_true, if_false, ExactScalar.notNaN, List.length_reverse,
      cnt, guard_eq, pure_eq_ok]

end SF.Bent
