import SF.Lemmas.Roof
/- Linearity of the recursive specs (SuperSmoother sequence, Laguerre ladder, Roofing high-pass) in the input stream. -/
namespace SF.Linear
open SF.Spec
variable {α : Type} [Field α]

/-- the stream a·x + b·y, entrywise over the common length -/
def lin (a b : α) (xs ys : List α) : List α := List.zipWith (fun x y => a * x + b * y) xs ys

theorem lin_length (a b : α) (xs ys : List α) (h : xs.length = ys.length) : (lin a b xs ys).length = xs.length := by
  simp [lin, h]

/-- a stream against itself with weights (a, 0) is the scaled stream: homogeneity is the case b = 0 of superposition -/
theorem lin_self_scale (a : α) (xs : List α) : lin a 0 xs xs = xs.map fun x => a * x := by
  induction xs with
  | nil => rfl
  | cons x r ih =>
    simp only [lin, List.zipWith_cons_cons, List.map_cons] at ih ⊢
    rw [ih]; congr 1; ring

theorem headD_lin (a b : α) (l r : List α) (h : l.length = r.length) :
    (lin a b l r).headD 0 = a * l.headD 0 + b * r.headD 0 := by
  -- `h` excludes the two cases of lists of different shape
  cases l <;> cases r <;> simp_all [lin]

theorem taps_lin (a b : α) (l r : List α) (h : l.length = r.length) :
    (lin a b l r).headD 0 = a * l.headD 0 + b * r.headD 0 ∧
    (lin a b l r).tail.headD 0 = a * l.tail.headD 0 + b * r.tail.headD 0 := by
  refine ⟨headD_lin a b l r h, ?_⟩
  rw [show (lin a b l r).tail = lin a b l.tail r.tail by cases l <;> cases r <;> simp [lin],
    headD_lin a b _ _ (by simp [h])]

/-- **a fold whose step is linear is linear**: `comb s t` is the state a·s + b·t, `C` whatever the two states must share for
that to make sense (equal lengths of the stored sequences); if one step maps the combined state and input to the combination
of the two steps, so does the whole fold over a·x + b·y -/
theorem foldl_lin {σ : Type} (a b : α) (f : σ → α → σ) (comb : σ → σ → σ) (C : σ → σ → Prop)
    (hf : ∀ s t x y, C s t → f (comb s t) (a * x + b * y) = comb (f s x) (f t y) ∧ C (f s x) (f t y)) :
    ∀ (xs ys : List α), xs.length = ys.length → ∀ s t, C s t →
      (lin a b xs ys).foldl f (comb s t) = comb (xs.foldl f s) (ys.foldl f t) ∧ C (xs.foldl f s) (ys.foldl f t)
  | [], [], _, s, t, h => ⟨rfl, h⟩
  | x :: xs, y :: ys, hl, s, t, h => by
    obtain ⟨e, h'⟩ := hf s t x y h
    have := foldl_lin a b f comb C hf xs ys (by simpa using hl) _ _ h'
    simpa [lin, e] using this
  | [], _ :: _, hl, _, _, _ => by simp at hl
  | _ :: _, [], hl, _, _, _ => by simp at hl

/-- the SuperSmoother fold state is linear in (input stream, pad) -/
theorem foldState_lin (c : Coef α) (a b p q : α) (xs ys : List α) (h : xs.length = ys.length) :
    SS.foldState c (a * p + b * q) (lin a b xs ys) =
      (lin a b (SS.foldState c p xs).1 (SS.foldState c q ys).1, a * (SS.foldState c p xs).2 + b * (SS.foldState c q ys).2) := by
  refine (foldl_lin a b _ (fun s t => (lin a b s.1 t.1, a * s.2 + b * t.2)) (fun s t => s.1.length = t.1.length)
    (fun s t x y hC => ⟨?_, by simpa using hC⟩) xs ys h ([], p) ([], q) rfl).1
  obtain ⟨e1, e2⟩ := taps_lin a b s.1 t.1 hC
  simp only [nat_eq, Nat.cast_zero, Nat.cast_ofNat, e1, e2]
  refine Prod.ext ?_ rfl
  show _ :: _ = _ :: _
  congr 1
  ring

/-- the same for two reported values: a·u + b·v once both are there -/
def olin (a b : α) : Option α → Option α → Option α
  | some u, some v => some (a * u + b * v)
  | _, _ => none

theorem olin_self_scale (a : α) (o : Option α) : olin a 0 o o = o.map fun v => a * v := by
  cases o with
  | none => rfl
  | some v => simp [olin]

theorem head?_lin (a b : α) (l r : List α) (h : l.length = r.length) :
    (lin a b l r).head? = olin a b l.head? r.head? := by
  -- `h` excludes the two cases of lists of different shape
  cases l <;> cases r <;> simp_all [lin, olin]

/-- the Laguerre ladder is linear in (initial state, input) -/
theorem ladder_lin (g a b : α) (i j : α × α × α × α) (xs ys : List α) (h : xs.length = ys.length) :
    lagLadder g (a * i.1 + b * j.1, a * i.2.1 + b * j.2.1, a * i.2.2.1 + b * j.2.2.1, a * i.2.2.2 + b * j.2.2.2) (lin a b xs ys)
      = (a * (lagLadder g i xs).1 + b * (lagLadder g j ys).1, a * (lagLadder g i xs).2.1 + b * (lagLadder g j ys).2.1,
         a * (lagLadder g i xs).2.2.1 + b * (lagLadder g j ys).2.2.1, a * (lagLadder g i xs).2.2.2 + b * (lagLadder g j ys).2.2.2) := by
  refine (foldl_lin a b _
    (fun s t => (a * s.1 + b * t.1, a * s.2.1 + b * t.2.1, a * s.2.2.1 + b * t.2.2.1, a * s.2.2.2 + b * t.2.2.2))
    (fun _ _ => True) (fun s t x y _ => ⟨?_, trivial⟩) xs ys h i j trivial).1
  exact Prod.ext (by ring) (Prod.ext (by ring) (Prod.ext (by ring) (by ring)))

theorem lin_reverse (a b : α) (l r : List α) (h : l.length = r.length) :
    (lin a b l r).reverse = lin a b l.reverse r.reverse := by
  simp only [lin]; rw [List.reverse_zipWith h]

theorem lin_drop (a b : α) (l r : List α) (n : Nat) : (lin a b l r).drop n = lin a b (l.drop n) (r.drop n) := by
  simp only [lin]; rw [List.drop_zipWith]

/-- the Roofing high-pass fold state is linear in the input -/
theorem hpFold_lin [Transc α] (N : Nat) (a b : α) (xs ys : List α) (h : xs.length = ys.length) :
    Roof.hpFold N (lin a b xs ys) =
      (lin a b (Roof.hpFold N xs).1 (Roof.hpFold N ys).1, a * (Roof.hpFold N xs).2.1 + b * (Roof.hpFold N ys).2.1,
        a * (Roof.hpFold N xs).2.2 + b * (Roof.hpFold N ys).2.2) := by
  have hstep : ∀ (s t : List α × α × α) (x y : α), s.1.length = t.1.length →
      (Roof.hpNext N (lin a b s.1 t.1, a * s.2.1 + b * t.2.1, a * s.2.2 + b * t.2.2) (a * x + b * y)
          :: lin a b s.1 t.1, a * x + b * y, a * s.2.1 + b * t.2.1)
        = (lin a b (Roof.hpNext N s x :: s.1) (Roof.hpNext N t y :: t.1), a * x + b * y, a * s.2.1 + b * t.2.1) := by
    intro s t x y hC
    obtain ⟨e1, e2⟩ := taps_lin a b s.1 t.1 hC
    simp only [Roof.hpNext, nat_eq, Nat.cast_zero, Nat.cast_ofNat, Nat.cast_one, e1, e2]
    refine Prod.ext ?_ rfl
    show _ :: _ = _ :: _
    congr 1
    ring
  have key := (foldl_lin a b (fun s x => (Roof.hpNext N s x :: s.1, x, s.2.1))
    (fun s t => (lin a b s.1 t.1, a * s.2.1 + b * t.2.1, a * s.2.2 + b * t.2.2))
    (fun s t => s.1.length = t.1.length) (fun s t x y hC => ⟨hstep s t x y hC, by simpa using hC⟩) xs ys h
    ([], nat 0, nat 0) ([], nat 0, nat 0) rfl).1
  -- the combination of the two (zero) initial states is the initial state
  rw [show (lin a b ([] : List α) [], a * (nat 0 : α) + b * nat 0, a * (nat 0 : α) + b * nat 0) = ([], nat 0, nat 0) by
    simp [lin, nat_eq]] at key
  rw [Roof.hpFold_eq_foldl, Roof.hpFold_eq_foldl, Roof.hpFold_eq_foldl]
  exact key

end SF.Linear
