import SF.Lemmas.Flex
import SF.Lemmas.Real
import SF.Lemmas.SpecFacts
/-
  TrendFlex / ReFlex: the normalised output d/√ms with ms = 0.04·d² + 0.96·ms₋₁ (ms₋₁ ≥ 0) can never exceed 5 in
  absolute value — whatever the input, the window length and the stream length.  (ms ≥ 0.04·d², so |d|/√ms ≤ 1/0.2.)
-/
namespace SF.FlexBound
open SF.Spec

/-- one step of the normalisation keeps ms ≥ 0 and every reported value within [−5, 5] -/
theorem normStep_inv (hold : Bool) (acc : ℝ × Option ℝ) (d : ℝ) (h : 0 ≤ acc.1 ∧ ∀ v, acc.2 = some v → |v| ≤ 5) :
    0 ≤ (Flex.normStep hold acc d).1 ∧ ∀ v, (Flex.normStep hold acc d).2 = some v → |v| ≤ 5 := by
  obtain ⟨hm, hv⟩ := h
  simp only [Flex.normStep, dec_eq, sq_eq, nat_eq, Nat.cast_ofNat, Nat.cast_zero, transc_sqrt_real]
  have hms : 0 ≤ (4 : ℝ) / 100 * (d * d) + 96 / 100 * acc.1 := by linarith [mul_self_nonneg d]
  refine ⟨hms, ?_⟩
  intro v hvv
  split at hvv
  · rename_i hpos
    simp only [Option.some.injEq] at hvv
    subst hvv
    set ms := (4 : ℝ) / 100 * (d * d) + 96 / 100 * acc.1 with hmsdef
    have hs : 0 < Real.sqrt ms := Real.sqrt_pos.mpr hpos
    rw [abs_div, abs_of_pos hs, div_le_iff₀ hs]
    -- d² ≤ 25·ms
    exact abs_le_of_sq_le_sq (by rw [mul_pow, Real.sq_sqrt hpos.le, hmsdef]; linarith) (by positivity)
  · split at hvv
    · exact hv v hvv
    · simp only [Option.some.injEq] at hvv; subst hvv; simp

theorem flexNorm_bound (hold : Bool) (ds : List ℝ) (v : ℝ) (h : flexNorm hold ds = some v) : |v| ≤ 5 :=
  (foldl_invariant (fun acc => 0 ≤ acc.1 ∧ ∀ v, acc.2 = some v → |v| ≤ 5) ds (fun acc d _ => normStep_inv hold acc d) _
    ⟨by simp, fun v hv => by cases hv⟩).2 v ((Flex.flexNorm_eq hold ds).symm.trans h)

end SF.FlexBound
