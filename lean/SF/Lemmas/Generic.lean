import SF.Lemmas.Except
/-
  Generic facts about `run`, `trace`, `wrap`, `mapV`, `binop` — no algebra, any scalar type.
-/
namespace SF
variable {α : Type}

def AllFinite [FloatLike α] (xs : List α) : Prop := ∀ x ∈ xs, FloatLike.isFinite x = true

@[simp] theorem assertFinite_ok [FloatLike α] {x : α} (h : FloatLike.isFinite x = true) :
    assertFinite x = .ok () := assertFinite_eq_ok.mpr h

theorem AllFinite.head [FloatLike α] {x : α} {xs : List α} (h : AllFinite (x :: xs)) :
    FloatLike.isFinite x = true := h x List.mem_cons_self

theorem AllFinite.tail [FloatLike α] {x : α} {xs : List α} (h : AllFinite (x :: xs)) : AllFinite xs :=
  fun y hy => h y (List.mem_cons_of_mem x hy)

namespace Core
theorem run_cons (B : Core α) (s : B.σ) (x : α) (xs : List α) :
    B.run s (x :: xs) = (B.step s x >>= fun s' => B.run s' xs) := rfl

theorem run_append (B : Core α) (s : B.σ) (xs ys : List α) :
    B.run s (xs ++ ys) = (B.run s xs) >>= fun s' => B.run s' ys := by
  induction xs generalizing s with
  | nil => rfl
  | cons x xs ih => simp only [List.cons_append, run_cons, ih, bind_assoc]
end Core

namespace View
theorem run_cons (V : View α) (s : V.σ) (x : α) (xs : List α) :
    V.run s (x :: xs) = (V.upd s x >>= fun s' => V.run s' xs) := rfl

theorem run_append (V : View α) (s : V.σ) (xs ys : List α) :
    V.run s (xs ++ ys) = (V.run s xs) >>= fun s' => V.run s' ys := by
  induction xs generalizing s with
  | nil => rfl
  | cons x xs ih => simp only [List.cons_append, run_cons, ih, bind_assoc]

theorem trace_cons (V : View α) (s : V.σ) (x : α) (xs : List α) :
    V.trace s (x :: xs) = (V.upd s x >>= fun s' => V.last s' >>= fun o => V.trace s' xs >>= fun r => pure (o :: r)) := rfl

theorem trace_cons_eq_ok {V : View α} {s : V.σ} {x : α} {xs : List α} {os : List (Option α)} :
    V.trace s (x :: xs) = .ok os ↔
      ∃ s', V.upd s x = .ok s' ∧ ∃ o, V.last s' = .ok o ∧ ∃ r, V.trace s' xs = .ok r ∧ o :: r = os := by
  simp only [trace_cons, bind_eq_ok, pure_eq_ok, Except.ok.injEq]

/-- a trace succeeds iff `run` and then `last` succeed on every non-empty prefix -/
theorem trace_ok_iff {V : View α} {s : V.σ} {xs : List α} :
    (∃ os, V.trace s xs = .ok os) ↔
      ∀ pre, pre ≠ [] → pre <+: xs → ∃ s', V.run s pre = .ok s' ∧ ∃ o, V.last s' = .ok o := by
  induction xs generalizing s with
  | nil => exact ⟨fun _ pre hne hp => absurd (List.prefix_nil.mp hp) hne, fun _ => ⟨[], rfl⟩⟩
  | cons x xs ih =>
    simp only [trace_cons_eq_ok]
    constructor
    · rintro ⟨_, s', hu, o, hl, r, hr, rfl⟩ pre hne hp
      obtain ⟨p, rfl⟩ : ∃ p, pre = x :: p := by
        cases pre with
        | nil => exact absurd rfl hne
        | cons y p => obtain rfl := (List.cons_prefix_cons.mp hp).1; exact ⟨p, rfl⟩
      simp only [run_cons, hu, ok_bind]
      cases p with
      | nil => exact ⟨s', rfl, o, hl⟩
      | cons y p => exact ih.mp ⟨r, hr⟩ _ (List.cons_ne_nil _ _) (List.cons_prefix_cons.mp hp).2
    · intro h
      obtain ⟨s', hs', o, hl⟩ := h [x] (List.cons_ne_nil _ _) (List.cons_prefix_cons.mpr ⟨rfl, List.nil_prefix⟩)
      simp only [run_cons, bind_eq_ok] at hs'
      obtain ⟨s1, hu, hs1⟩ := hs'
      cases hs1
      obtain ⟨r, hr⟩ := ih.mpr fun pre hne hp => by
        simpa only [run_cons, hu, ok_bind] using h (x :: pre) (List.cons_ne_nil _ _) (List.cons_prefix_cons.mpr ⟨rfl, hp⟩)
      exact ⟨_, s', hu, o, hl, r, hr, rfl⟩

theorem trace_ok_run {V : View α} {s : V.σ} {xs : List α} {os : List (Option α)} (h : V.trace s xs = .ok os) :
    ∃ s', V.run s xs = .ok s' := by
  cases xs with
  | nil => exact ⟨s, rfl⟩
  | cons x xs => exact (trace_ok_iff.mp ⟨os, h⟩ _ (List.cons_ne_nil _ _) List.prefix_rfl).imp fun _ h => h.1
end View

namespace Core
/-- the tail of the shared head of every unary `update`: `let Some(val) = self.view.last() else { return };` and then
the finiteness assertion and the core's step -/
def deliver [FloatLike α] (B : Core α) (b : B.σ) : Option α → M B.σ
  | none => pure b
  | some v => do assertFinite v; B.step b v

theorem deliver_none [FloatLike α] (B : Core α) (b : B.σ) : B.deliver b none = .ok b := rfl

theorem deliver_some_eq_ok [FloatLike α] {B : Core α} {b b' : B.σ} {v : α} :
    B.deliver b (some v) = .ok b' ↔ FloatLike.isFinite v = true ∧ B.step b v = .ok b' := by
  simp only [deliver, bind_eq_ok, assertFinite_eq_ok, exists_const]

/-- feed a core the outputs delivered by an inner view: at a step where the inner view had an output the core
is stepped with it (after the finiteness assertion of the wrapper's head), otherwise it is left alone; the
core's answer is read after every step.  This is "B over Echo, updated only when A has an output". -/
def feed [FloatLike α] (B : Core α) (b : B.σ) : List (Option α) → M (List (Option α))
  | [] => pure []
  | none :: os => do
    let o ← B.out b
    let rest ← feed B b os
    pure (o :: rest)
  | some v :: os => do
    assertFinite v
    let b' ← B.step b v
    let o ← B.out b'
    let rest ← feed B b' os
    pure (o :: rest)

theorem feed_cons [FloatLike α] (B : Core α) (b : B.σ) (o : Option α) (os : List (Option α)) :
    B.feed b (o :: os) =
      (do let b' ← B.deliver b o; let r ← B.out b'; let rest ← B.feed b' os; pure (r :: rest)) := by
  cases o
  · rfl
  · simp only [feed, deliver, bind_assoc]

theorem feed_idle [FloatLike α] (B : Core α) (b : B.σ) (o : Option α) (h : B.out b = .ok o) (n : Nat) :
    B.feed b (List.replicate n none) = .ok (List.replicate n o) := by
  induction n with
  | zero => rfl
  | succ n ih => simp only [List.replicate_succ, feed, h, ih, ok_bind, pure_eq_ok]
end Core

section chain
variable [FloatLike α]

section
variable (A : View α) (B : Core α)
theorem wrap_last (s : A.σ × B.σ) : (wrap A B).last s = B.out s.2 := rfl
end

theorem wrap_upd (A : View α) (B : Core α) (s : A.σ × B.σ) (x : α) :
    (wrap A B).upd s x =
      (do assertFinite x; let a ← A.upd s.1 x; let o ← A.last a; let b ← B.deliver s.2 o; pure (a, b)) := by
  refine bind_congr fun _ => bind_congr fun a => bind_congr fun o => ?_
  cases o with
  | none => rfl
  | some v => exact (bind_assoc _ _ _).symm

theorem wrap_upd_eq_ok {A : View α} {B : Core α} {s s' : A.σ × B.σ} {x : α} :
    (wrap A B).upd s x = .ok s' ↔ FloatLike.isFinite x = true ∧ A.upd s.1 x = .ok s'.1 ∧
      ∃ o, A.last s'.1 = .ok o ∧ B.deliver s.2 o = .ok s'.2 := by
  rw [wrap_upd]
  simp only [bind_eq_ok, assertFinite_eq_ok, pure_eq_ok, Except.ok.injEq]
  constructor
  · rintro ⟨-, hx, a, hu, o, hl, b, hd, rfl⟩; exact ⟨hx, hu, o, hl, hd⟩
  · rintro ⟨hx, hu, o, hl, hd⟩; exact ⟨(), hx, _, hu, o, hl, _, hd, rfl⟩

theorem mapV_upd_eq_ok {f : α → α} {A : View α} {a a' : A.σ} {x : α} :
    (mapV f A).upd a x = .ok a' ↔ FloatLike.isFinite x = true ∧ A.upd a x = .ok a' := by
  simp only [bind_eq_ok, assertFinite_eq_ok, exists_const]

theorem mapV_last_eq_ok {f : α → α} {A : View α} {a : A.σ} {r : Option α} :
    (mapV f A).last a = .ok r ↔
      ∃ o, A.last a = .ok o ∧ (∀ v, o = some v → FloatLike.isFinite v = true) ∧ o.map f = r := by
  simp only [bind_eq_ok]
  refine exists_congr fun o => and_congr_right fun _ => ?_
  cases o with
  | none => simp [pure_eq_ok]
  | some v => simp [bind_eq_ok, assertFinite_eq_ok, pure_eq_ok]

theorem mapV_run (f : α → α) (A : View α) (a : A.σ) {xs : List α} (hx : AllFinite xs) :
    (mapV f A).run a xs = A.run a xs := by
  induction xs generalizing a with
  | nil => rfl
  | cons x xs ih =>
    rw [View.run_cons, View.run_cons]
    simp only [assertFinite_ok hx.head, ok_bind]
    exact bind_congr fun a' => ih a' hx.tail

theorem binop_upd_eq_ok {f : α → α → M α} {A B : View α} {s s' : A.σ × B.σ} {x : α} :
    (binop f A B).upd s x = .ok s' ↔
      FloatLike.isFinite x = true ∧ A.upd s.1 x = .ok s'.1 ∧ B.upd s.2 x = .ok s'.2 := by
  simp only [bind_eq_ok, assertFinite_eq_ok, pure_eq_ok, Except.ok.injEq, exists_const, Prod.ext_iff]
  constructor
  · rintro ⟨hx, a, hu, b, hv, rfl, rfl⟩; exact ⟨hx, hu, hv⟩
  · rintro ⟨hx, hu, hv⟩; exact ⟨hx, _, hu, _, hv, rfl, rfl⟩

theorem binop_last_of_some {f : α → α → M α} {A B : View α} {s : A.σ × B.σ} {x y : α}
    (ha : A.last s.1 = .ok (some x)) (hb : B.last s.2 = .ok (some y))
    (hx : FloatLike.isFinite x = true) (hy : FloatLike.isFinite y = true) :
    (binop f A B).last s = (f x y >>= fun r => pure (some r)) := by
  simp only [ha, hb, assertFinite_ok hx, assertFinite_ok hy, ok_bind]

theorem binop_last_of_none {f : α → α → M α} {A B : View α} {s : A.σ × B.σ} {oa ob : Option α}
    (ha : A.last s.1 = .ok oa) (hb : B.last s.2 = .ok ob) (h : oa = none ∨ ob = none) :
    (binop f A B).last s = .ok none := by
  simp only [ha, hb, ok_bind]
  rcases h with rfl | rfl
  · rfl
  · cases oa <;> rfl

theorem binop_run (f : α → α → M α) (A B : View α) {xs : List α} (hx : AllFinite xs) {a a' : A.σ} {b b' : B.σ}
    (ha : A.run a xs = .ok a') (hb : B.run b xs = .ok b') : (binop f A B).run (a, b) xs = .ok (a', b') := by
  induction xs generalizing a b with
  | nil => cases ha; cases hb; rfl
  | cons x xs ih =>
    obtain ⟨a1, hu, ha⟩ := bind_eq_ok.mp ha
    obtain ⟨b1, hv, hb⟩ := bind_eq_ok.mp hb
    exact bind_eq_ok.mpr ⟨(a1, b1), binop_upd_eq_ok.mpr ⟨hx.head, hu, hv⟩, ih hx.tail ha hb⟩

/-- the states of a chain: the inner view runs as it does alone, the core runs on exactly the values the inner view
reported (no equation between the two sides' panics holds: which of the two panics first depends on the interleaving) -/
theorem wrap_run_eq_ok {A : View α} {B : Core α} {xs : List α} (hx : AllFinite xs) {a : A.σ} {b : B.σ}
    {s : A.σ × B.σ} :
    (wrap A B).run (a, b) xs = .ok s ↔
      ∃ os, A.trace a xs = .ok os ∧ A.run a xs = .ok s.1 ∧
        (∀ v, some v ∈ os → FloatLike.isFinite v = true) ∧ B.run b (os.filterMap id) = .ok s.2 := by
  induction xs generalizing a b with
  | nil =>
    refine ⟨fun h => ?_, fun ⟨_, h0, h1, _, h2⟩ => ?_⟩
    · cases h; exact ⟨[], rfl, rfl, by simp, rfl⟩
    · cases h0; cases h1; cases h2; rfl
  | cons x xs ih =>
    constructor
    · intro h
      obtain ⟨⟨a1, b1⟩, h1, hr⟩ := bind_eq_ok.mp h
      obtain ⟨-, hu, o, hl, hd⟩ := wrap_upd_eq_ok.mp h1
      obtain ⟨os, ht, hra, hf, hrb⟩ := (ih hx.tail).mp hr
      refine ⟨o :: os, View.trace_cons_eq_ok.mpr ⟨a1, hu, o, hl, os, ht, rfl⟩, bind_eq_ok.mpr ⟨a1, hu, hra⟩, ?_⟩
      cases o with
      | none =>
        cases hd
        exact ⟨fun v hv => hf v ((List.mem_cons.mp hv).resolve_left (Option.some_ne_none v)), hrb⟩
      | some w =>
        obtain ⟨hw, hs⟩ := Core.deliver_some_eq_ok.mp hd
        refine ⟨fun v hv => ?_, bind_eq_ok.mpr ⟨b1, hs, hrb⟩⟩
        rcases List.mem_cons.mp hv with h | h
        · cases h; exact hw
        · exact hf v h
    · rintro ⟨_, ht', hra, hf, hrb⟩
      obtain ⟨a1, hu, o, hl, os, ht, rfl⟩ := View.trace_cons_eq_ok.mp ht'
      obtain ⟨a1', hu', hra⟩ := bind_eq_ok.mp hra
      cases hu.symm.trans hu'
      have hf' : ∀ v, some v ∈ os → FloatLike.isFinite v = true := fun v hv => hf v (List.mem_cons_of_mem _ hv)
      cases o with
      | none =>
        exact bind_eq_ok.mpr ⟨(a1, b), wrap_upd_eq_ok.mpr ⟨hx.head, hu, none, hl, B.deliver_none b⟩,
          (ih hx.tail).mpr ⟨os, ht, hra, hf', hrb⟩⟩
      | some w =>
        obtain ⟨b1, hs, hrb⟩ := bind_eq_ok.mp hrb
        exact bind_eq_ok.mpr ⟨(a1, b1), wrap_upd_eq_ok.mpr ⟨hx.head, hu, some w, hl,
          Core.deliver_some_eq_ok.mpr ⟨hf w List.mem_cons_self, hs⟩⟩, (ih hx.tail).mpr ⟨os, ht, hra, hf', hrb⟩⟩
end chain

end SF
