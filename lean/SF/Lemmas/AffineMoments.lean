import SF.Lemmas.SpecFacts
import SF.Lemmas.Moments
import SF.Lemmas.Real
/-
  The second-moment specs under x ↦ a·x + b.  Variances pick up a² (any ordered field); at ℝ the windowed std picks up |a|
  and the z-scores Vst / Vsct the sign a/|a|, for every a ≠ 0 at once (a > 0 and a = −1 are C12's statements, a = 0 is C16's
  flat window).  The Pearson index (CTI) is a function `corr` of three centred sums `Moments.ncov`, of which the one of the
  window with itself scales by a² and the one with the time index by a.
-/
/-- the time index 0, …, n−1 that CTI correlates its window with; here because `pearson_eq_corr` needs it, its sums are in
CtiAffine.lean -/
noncomputable def SF.CtiAffine.ks (n : Nat) : List ℝ := (List.range n).map fun k => ((k : ℕ) : ℝ)

@[simp] theorem SF.CtiAffine.ks_length (n : Nat) : (SF.CtiAffine.ks n).length = n := by simp [SF.CtiAffine.ks]

namespace SF.Inv2
open SF.Spec SF.CtiAffine SF.Moments

section
variable {α : Type} [Field α]

theorem S2_map_affine (a b : α) (x : List α) :
    S2 (x.map fun v => a * v + b) = a * a * S2 x + 2 * a * b * sumL x + (x.length : α) * (b * b) := by
  induction x with
  | nil => simp
  | cons v r ih =>
    simp only [List.map_cons, S2_cons, sumL_cons, ih, List.length_cons, Nat.cast_succ]
    ring

/-- the centred sum is linear in its first argument and does not see an offset there -/
theorem ncov_map_affine (a b : α) (x y : List α) (h : x.length = y.length) :
    ncov (x.map fun v => a * v + b) y = a * ncov x y := by
  rw [ncov, ncov, Alma.dot_comm, Alma.dot_affine y x a b h.symm, Alma.dot_comm y, sumL_map_affine, List.length_map]
  ring

theorem ncov_self_map_affine (a b : α) (x : List α) :
    ncov (x.map fun v => a * v + b) (x.map fun v => a * v + b) = a * a * ncov x x := by
  rw [ncov_self, ncov_self, S2_map_affine, sumL_map_affine, List.length_map]
  ring
end

section
variable {α : Type} [Field α] [LinearOrder α] [IsStrictOrderedRing α]
theorem mean_affine (a b : α) (w : List α) (hw : w ≠ []) : mean (w.map fun x => a * x + b) = a * mean w + b := by
  have hl : (w.length : α) ≠ 0 := by exact_mod_cast (List.length_pos_of_ne_nil hw).ne'
  simp only [mean, List.length_map, nat_eq, sumL_map_affine]
  field_simp

theorem sq_dev_affine (a b : α) (w : List α) (hw : w ≠ []) :
    sumL ((w.map fun x => a * x + b).map fun y => sq (y - mean (w.map fun x => a * x + b)))
      = a * a * sumL (w.map fun x => sq (x - mean w)) := by
  rw [mean_affine a b w hw, List.map_map, ← sumL_map_mul_left]
  congr 1
  apply List.map_congr_left
  intro x _
  simp only [Function.comp, sq_eq]
  ring

/-- a window of at most one value has variance 0 on both sides; otherwise the squared deviations scale by a² -/
theorem sampleVar_affine (a b : α) (w : List α) :
    sampleVar (w.map fun x => a * x + b) = a * a * sampleVar w := by
  simp only [sampleVar, List.length_map]
  split
  · simp
  · rename_i h
    rw [sq_dev_affine a b w (by rintro rfl; simp at h)]
    ring
end

section
variable {α : Type} [Field α] [LinearOrder α] [IsStrictOrderedRing α] [FloatLike α] [ExactScalar α]
set_option linter.unusedSectionVars false in
theorem popVar_affine (a b : α) (w : List α) :
    popVar (w.map fun x => a * x + b) = a * a * popVar w := by
  simp only [popVar, List.length_map]
  split
  · simp
  · rename_i h
    rw [sq_dev_affine a b w (by rintro rfl; simp at h)]
    ring
end

section real
/-- at ℝ the guarded root is the root (`Real.sqrt` is 0 on the non-positive reals) -/
theorem stdOf_real (v : ℝ) : stdOf v = Real.sqrt v := by
  simp only [stdOf, nat_eq, Nat.cast_zero, transc_sqrt_real]
  split
  · rename_i h; exact (Real.sqrt_eq_zero_of_nonpos h).symm
  · rfl

theorem stdOf_nonneg (v : ℝ) : 0 ≤ stdOf v := by
  rw [stdOf_real]; exact Real.sqrt_nonneg v

theorem stdOf_sq_mul (a v : ℝ) : stdOf (a * a * v) = |a| * stdOf v := by
  rw [stdOf_real, stdOf_real, Real.sqrt_mul (mul_self_nonneg a), Real.sqrt_mul_self_eq_abs]

theorem welford_affine (N : Nat) (a b : ℝ) (xs : List ℝ) :
    Spec.welford N (xs.map fun x => a * x + b) = (Spec.welford N xs).map fun s => |a| * s := by
  simp only [Spec.welford, List.length_map, lastN_map, sampleVar_affine, stdOf_sq_mul, apply_ite (Option.map _),
    Option.map_none, Option.map_some]

/-- flat windows included: 0 on both sides -/
theorem vsct_affine (N : Nat) (hN : 0 < N) (a b : ℝ) (ha : a ≠ 0) (xs : List ℝ) :
    Spec.vsct N (xs.map fun x => a * x + b) = (Spec.vsct N xs).map fun v => a / |a| * v := by
  simp only [Spec.vsct, welford_affine, List.getLast?_map, Spec.welfordMean, lastN_map]
  cases Spec.welford N xs with
  | none => rfl
  | some sd =>
    cases hg : xs.getLast? with
    | none => simp
    | some x =>
      have ha' : |a| ≠ 0 := abs_ne_zero.2 ha
      have hne : lastN N xs ≠ [] := List.ne_nil_of_mem (mem_lastN_of_getLast N hN xs x hg)
      simp only [Option.map_some, mean_affine a b _ hne, beq_iff_eq, nat_eq, Nat.cast_zero, mul_eq_zero, ha', false_or,
        apply_ite (a / |a| * ·), mul_zero]
      -- (a·x + b − (a·m + b)) / (|a|·sd) = a/|a| · (x − m)/sd
      congr 2
      field_simp
      ring

/-- off flat windows only: on a flat window Vst reports x itself -/
theorem vst_affine (N : Nat) (a : ℝ) (ha : a ≠ 0) (xs : List ℝ) (sd : ℝ) (hsd : Spec.welford N xs = some sd) (hne : sd ≠ 0) :
    Spec.vst N (xs.map fun x => a * x) = (Spec.vst N xs).map fun v => a / |a| * v := by
  have hw := welford_affine N a 0 xs
  simp only [add_zero] at hw
  have ha' : |a| ≠ 0 := abs_ne_zero.2 ha
  simp only [Spec.vst, hw, hsd, List.getLast?_map, Option.map_some]
  cases xs.getLast? with
  | none => simp
  | some x =>
    simp only [Option.map_some, beq_iff_eq, nat_eq, Nat.cast_zero, mul_eq_zero, ha', hne, false_or, if_false]
    congr 1
    field_simp

/-- the correlation as a function of the centred sums A = n·Sxx − Sx², B = n·Syy − Sy², C = n·Sxy − Sx·Sy -/
noncomputable def corr (A B C : ℝ) : ℝ := if 0 < A ∧ 0 < B then C / Real.sqrt (A * B) else 0

theorem corr_self {A : ℝ} (h : 0 < A) : corr A A A = 1 := by
  rw [corr, if_pos ⟨h, h⟩, Real.sqrt_mul_self h.le, div_self h.ne']

theorem corr_of_not_pos {A : ℝ} (h : ¬ 0 < A) (B C : ℝ) : corr A B C = 0 :=
  if_neg fun h' => h h'.1

theorem corr_scale (a : ℝ) (ha : a ≠ 0) (A B C : ℝ) : corr (a * a * A) B (a * C) = a / |a| * corr A B C := by
  have haa : 0 < a * a := mul_self_pos.2 ha
  simp only [corr, mul_pos_iff_of_pos_left haa, mul_assoc (a * a), Real.sqrt_mul haa.le, Real.sqrt_mul_self_eq_abs,
    mul_ite, mul_zero, mul_div_mul_comm]

theorem corr_abs_le (A B C : ℝ) (h : C * C ≤ A * B) : |corr A B C| ≤ 1 := by
  unfold corr
  split
  · rename_i hAB
    have hs := Real.sqrt_pos.2 (mul_pos hAB.1 hAB.2)
    rw [abs_div, abs_of_pos hs, div_le_one hs]
    exact Real.abs_le_sqrt (by rw [pow_two]; exact h)
  · simp

theorem pearson_eq_corr (w : List ℝ) :
    pearsonIdx w = corr (ncov w w) (ncov (ks w.length) (ks w.length)) (ncov w (ks w.length)) := by
  rw [ncov_self, ncov_self, ncov, ks_length]
  simp only [pearsonIdx, corr, S2, Alma.dot_eq, nat_eq, sq_eq, Nat.cast_zero, transc_sqrt_real, Bool.and_eq_true,
    decide_eq_true_eq]
  rfl

/-- like the z-scores, the Pearson index sees x ↦ a·x + b (a ≠ 0) only through the sign of a -/
theorem pearson_affine (a b : ℝ) (ha : a ≠ 0) (w : List ℝ) :
    pearsonIdx (w.map fun x => a * x + b) = a / |a| * pearsonIdx w := by
  rw [pearson_eq_corr, pearson_eq_corr, List.length_map, ncov_self_map_affine,
    ncov_map_affine a b w _ (ks_length _).symm, corr_scale a ha]

theorem pearson_neg (w : List ℝ) : pearsonIdx (w.map fun x => -x) = -pearsonIdx w := by
  simpa using pearson_affine (-1) 0 (by norm_num) w

theorem cti_affine (N : Nat) (a b : ℝ) (ha : 0 < a) (xs : List ℝ) :
    Spec.cti N (xs.map fun x => a * x + b) = Spec.cti N xs := by
  simp only [Spec.cti, List.length_map, lastN_map, pearson_affine a b ha.ne', abs_of_pos ha, div_self ha.ne', one_mul]

end real
end SF.Inv2
