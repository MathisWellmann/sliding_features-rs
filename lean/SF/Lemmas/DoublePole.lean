import SF.Lemmas.Stable
/-
  Two-pole sections with a DOUBLE REAL pole p, |p| ≤ ρ < 1:   h(t) = u(t) + 2p·h(t−1) − p²·h(t−2).
  Writing w(t) = h(t) − p·h(t−1) one gets w(t) = u(t) + p·w(t−1): two cascaded one-pole sections.  (The sizes and the bounds
  are stated for two real poles p, q; the crate's sections have q = p.)  Hence
  |u| ≤ U for ever  ⇒  |w| ≤ U/(1−ρ) and |h| ≤ U/(1−ρ)² for ever, and with u ≡ 0 both decay geometrically.
  Any ordered field; the instances (CyberCycle, the Roofing high-pass) are in `HighPass`.
-/
namespace SF.DoublePole
variable {α : Type} [Field α] [LinearOrder α] [IsStrictOrderedRing α]

/-- a section with two real poles p, q (the double pole: q = p), `y' = (p + q)·y1 − p·q·y2 + u`, is two one-pole sections in
cascade: w = y − q·y₋₁ obeys w' = p·w + u, and y' = q·y1 + w'.  In sizes (the caller discharges `hrec` by `ring`): -/
theorem real_sizes (p q ρ : α) (hp : |p| ≤ ρ) (hq : |q| ≤ ρ) (y1 y2 u y' : α) (hrec : y' = (p + q) * y1 - p * q * y2 + u) :
    |y' - q * y1| ≤ ρ * |y1 - q * y2| + |u| ∧ |y'| ≤ ρ * |y1| + |y' - q * y1| := by
  constructor
  · rw [show y' - q * y1 = p * (y1 - q * y2) + u by rw [hrec]; ring]
    refine (abs_add_le _ _).trans (add_le_add ?_ le_rfl)
    rw [abs_mul]
    exact mul_le_mul_of_nonneg_right hp (abs_nonneg _)
  · have h := abs_add_le (q * y1) (y' - q * y1)
    rw [add_sub_cancel, abs_mul] at h
    exact h.trans (add_le_add (mul_le_mul_of_nonneg_right hq (abs_nonneg _)) le_rfl)

/-- **the recursion run on a newest-first list keeps its two bounds**: all values within U/(1−ρ)², the first section
w = y − q·y₋₁ within U/(1−ρ), whenever the input term is within U -/
theorem cons_bound (p q ρ U u y' : α) (L : List α) (hρ0 : 0 ≤ ρ) (hρ1 : ρ < 1) (hp : |p| ≤ ρ) (hq : |q| ≤ ρ) (hU : 0 ≤ U)
    (hu : |u| ≤ U) (hrec : y' = (p + q) * L.headD 0 - p * q * L.tail.headD 0 + u)
    (hall : ∀ c ∈ L, |c| ≤ U / (1 - ρ) / (1 - ρ)) (hw : |L.headD 0 - q * L.tail.headD 0| ≤ U / (1 - ρ)) :
    (∀ c ∈ y' :: L, |c| ≤ U / (1 - ρ) / (1 - ρ)) ∧ |y' - q * L.headD 0| ≤ U / (1 - ρ) := by
  have h1ρ : 0 < 1 - ρ := by linarith
  have h := real_sizes p q ρ hp hq _ _ u y' hrec
  obtain ⟨hw', hh'⟩ := Stable.twoStage_bound ρ hρ0 hρ1 h.1 h.2 hu hw
    (Stable.headD_bound (div_nonneg (div_nonneg hU h1ρ.le) h1ρ.le) L hall)
  exact ⟨List.forall_mem_cons.2 ⟨hh', hall⟩, hw'⟩

/-- **homogeneous contraction**: with no input, V = |h| + λ·|h − p·h₋₁|, λ = 2ρ/(1−ρ), shrinks by σ = (1+ρ)/2 < 1 per step -/
theorem contraction (p ρ h1 h2 : α) (hρ0 : 0 ≤ ρ) (hρ1 : ρ < 1) (hp : |p| ≤ ρ) :
    |2 * p * h1 - p * p * h2| + 2 * ρ / (1 - ρ) * |(2 * p * h1 - p * p * h2) - p * h1|
      ≤ (1 + ρ) / 2 * (|h1| + 2 * ρ / (1 - ρ) * |h1 - p * h2|) := by
  have h := real_sizes p p ρ hp hp h1 h2 0 _ (show 2 * p * h1 - p * p * h2 = _ by ring)
  simpa using Stable.twoStage ρ hρ0 hρ1 (abs_nonneg _) h.1 h.2

/-- a sequence that obeys the homogeneous recursion d(n+2) = 2p·d(n+1) − p²·d(n) from index m on (for the next k steps):
V(n) = |d(n+1)| + (2p/(1−p))·|d(n+1) − p·d(n)| shrinks by (1+p)/2 per step and dominates |d(n+1)|.  This is `contraction` with
ρ = p, hence 0 ≤ p: CyberCycle's pole.  The Roofing pole is negative for N = 2 and goes through `contraction` itself. -/
theorem seq_decay (p : α) (hp0 : 0 ≤ p) (hp1 : p < 1) (d : Nat → α) (m k : Nat)
    (hrec : ∀ n, m ≤ n → n < m + k → d (n + 2) = 2 * p * d (n + 1) - p * p * d n) :
    let V := fun n => |d (n + 1)| + 2 * p / (1 - p) * |d (n + 1) - p * d n|
    V (m + k) ≤ ((1 + p) / 2) ^ k * V m ∧ |d (m + k + 1)| ≤ V (m + k) := by
  intro V
  refine ⟨?_, le_add_of_nonneg_right (mul_nonneg (div_nonneg (by linarith) (by linarith)) (abs_nonneg _))⟩
  refine Stable.le_geom (u := fun n => V (m + n)) (by linarith) k fun n hn => ?_
  show |d (m + n + 2)| + 2 * p / (1 - p) * |d (m + n + 2) - p * d (m + n + 1)| ≤ _
  rw [hrec (m + n) (by omega) (by omega)]
  exact contraction p p _ _ hp0 hp1 (abs_of_nonneg hp0).le

/-- |x − 2y + z| ≤ 4B for three values bounded by B -/
theorem second_diff_bound (x y z B : α) (hx : |x| ≤ B) (hy : |y| ≤ B) (hz : |z| ≤ B) : |x - 2 * y + z| ≤ 4 * B := by
  have h := abs_add_three x (-(2 * y)) z
  rw [abs_neg, abs_mul, abs_two, ← sub_eq_add_neg] at h
  linarith only [h, hx, hy, hz]

end SF.DoublePole
