import SF.Lemmas.NoPanic
import SF.Lemmas.Field
import SF.Expr
/-
  Readiness never reverts, core by core: from ANY state in which `last()` reports a value, one more `update` leads to a
  state in which `last()` does not report `None`.  (A chain's readiness is its outermost core's, and that core is only
  stepped when the inner view delivers, so this carries over to every chain: `C08.chain_readyStable`.)
-/
namespace SF.Ready
variable {α : Type}

/-- `last()` reads an `Option`-valued function `f` of the state, and a successful step either makes it `some` or leaves
it as it was -/
theorem of_keep (B : Core α) (f : B.σ → Option α) (hout : ∀ s, B.out s = .ok (f s))
    (h : ∀ s x s', B.step s x = .ok s' → (∃ o, f s' = some o) ∨ f s' = f s) : B.ReadyStable := by
  intro s x s' ⟨v, hv⟩ hs hn
  rw [hout] at hv hn
  have hv := Except.ok.inj hv
  have hn := Except.ok.inj hn
  rcases h s x s' hs with ⟨o, ho⟩ | he
  · rw [ho] at hn; cases hn
  · rw [he, hv] at hn; cases hn

/-- … in particular when every successful step stores a value -/
theorem of_set (B : Core α) (f : B.σ → Option α) (hout : ∀ s, B.out s = .ok (f s))
    (h : ∀ s x s', B.step s x = .ok s' → ∃ o, f s' = some o) : B.ReadyStable :=
  of_keep B f hout fun s x s' hs => Or.inl (h s x s' hs)

/-- views whose `last()` never reports `None` (HLNormalizer, CTI, Drawdown): nothing to revert -/
theorem of_always (B : Core α) (h : ∀ s, B.out s ≠ .ok none) : B.ReadyStable :=
  fun _ _ s' _ _ hn => h s' hn

/-- a chain's readiness is its outermost core's: the core is stepped only when the inner view delivers, and `last()` of the
chain is the core's -/
theorem wrap_readyStable [FloatLike α] (A : View α) (B : Core α) (hB : B.ReadyStable) : (wrap A B).ReadyStable := by
  intro s x s' hv hs
  obtain ⟨-, -, o, -, hd⟩ := wrap_upd_eq_ok.mp hs
  cases o with
  | none =>
    obtain ⟨v, hv⟩ := hv
    show B.out s'.2 ≠ .ok none
    rw [← Except.ok.inj ((B.deliver_none s.2).symm.trans hd), show B.out s.2 = _ from hv]
    exact fun h => by cases h
  | some w => exact hB s.2 w s'.2 hv (Core.deliver_some_eq_ok.mp hd).2

/-- Tanh keeps the readiness of its child -/
theorem mapV_readyStable [FloatLike α] (f : α → α) (A : View α) (hA : A.ReadyStable) : (mapV f A).ReadyStable := by
  intro s x s' ⟨v, hv⟩ hs hn
  obtain ⟨o, ho, -, hov⟩ := mapV_last_eq_ok.mp hv
  obtain ⟨o', ho', -, hon⟩ := mapV_last_eq_ok.mp hn
  cases o with
  | none => cases hov
  | some w =>
    cases o' with
    | none => exact hA s x s' ⟨w, ho⟩ (mapV_upd_eq_ok.mp hs).2 ho'
    | some w' => cases hon

/-- the new extremum is a value, whatever the old one was (`c m`: the new value `x` beats the old extremum `m`) -/
theorem ext_push_some (c : α → Prop) [DecidablePred c] (x : α) (opt : Option α) :
    ∃ o, (match (motive := Option α → Option α) opt with
      | some m => if c m then some x else some m
      | none => some x) = some o := by
  cases opt with
  | none => exact ⟨_, rfl⟩
  | some m => dsimp only; split <;> exact ⟨_, rfl⟩

/-- split a step all the way down; an erroring branch contradicts `= .ok s'`, a succeeding one exhibits the new state -/
macro "ready_split" hs:ident : tactic =>
  `(tactic| (repeat' split at $hs:ident) <;>
      first | (cases $hs:ident; done) | (cases $hs:ident; first | exact Or.inl ⟨_, rfl⟩ | exact Or.inr rfl))

set_option linter.unusedSectionVars false
variable [Field α] [LinearOrder α] [IsStrictOrderedRing α] [FloatLike α] [ExactScalar α] [Transc α]

/-! `GTE`, `LTE`, CenterOfGravity store a value at every successful step -/
theorem gte (c : α) : (gteCore c).ReadyStable :=
  of_set _ id (fun _ => rfl) fun s x s' hs => by cases hs; split <;> exact ⟨_, rfl⟩

theorem lte (c : α) : (lteCore c).ReadyStable :=
  of_set _ id (fun _ => rfl) fun s x s' hs => by cases hs; split <;> exact ⟨_, rfl⟩

theorem cog (N : Nat) : (cogCore (α := α) N).ReadyStable :=
  of_set _ (fun s => s.out) (fun _ => rfl) fun s x s' hs => by
    simp only [cogCore, assertFinite_exact, ok_bind, pure_eq_ok] at hs
    generalize (if N ≤ s.q.length then s.q.tail else s.q) = q at hs
    split at hs <;> (cases hs; exact ⟨_, rfl⟩)

theorem drawdown : (drawdownCore (α := α)).ReadyStable :=
  of_always _ fun s h => by
    simp only [drawdownCore, assertFinite_exact, ok_bind, pure_eq_ok] at h
    cases h

/-! the counting cores: `last()` is `None` exactly below a threshold of a counter that a step raises -/
theorem welfordRolling : (welfordRollingCore (α := α)).ReadyStable := by
  intro s x s' _ hs hn
  cases hs
  simp only [welfordRollingCore, Nat.succ_ne_zero, if_false, assertFinite_exact, ok_bind, pure_eq_ok] at hn
  cases hn

theorem ema (N : Nat) (a : α) : (emaCore N a).ReadyStable := by
  intro s x s' ⟨v, hv⟩ hs hn
  have hN : ¬ s.n < N := fun hlt => by
    simp only [emaCore, hlt, if_true, pure_eq_ok] at hv
    cases hv
  have hn' : s'.n = s.n + 1 := by
    simp only [emaCore, pure_eq_ok] at hs
    split at hs <;> (cases hs; rfl)
  have : ¬ s'.n < N := by omega
  simp only [emaCore, this, if_false, assertFinite_exact, ok_bind, pure_eq_ok] at hn
  cases hn

theorem superSmoother (N : Nat) : (ssCore (α := α) N).ReadyStable := by
  intro s x s' ⟨v, hv⟩ hs hn
  have hN : ¬ s.i < N := fun hlt => by
    simp only [ssCore, ssOut, hlt, if_true, pure_eq_ok] at hv
    cases hv
  cases hs
  have : ¬ (ssStep (ssCoef N) s x).i < N := by simp only [ssStep]; omega
  simp only [ssCore, ssOut, this, if_false, assertFinite_exact, ok_bind, pure_eq_ok] at hn
  cases hn

theorem sma (N : Nat) : (smaCore (α := α) N).ReadyStable := by
  intro s x s' ⟨v, hv⟩ hs hn
  have hfull : N ≤ s.q.length := Nat.le_of_not_lt fun hlt => by
    simp only [smaCore, hlt, if_true, pure_eq_ok] at hv
    cases hv
  cases hq : s.q with
  | nil =>
    -- only for N = 0, and then the step pops an empty deque
    rw [hq] at hfull
    simp only [smaCore, hq, hfull, if_true, popFront, throw_eq_error, error_bind] at hs
    cases hs
  | cons old rest =>
    -- a full window: the step pops one value and pushes one
    rw [hq] at hfull
    simp only [smaCore, hq, hfull, if_true, popFront, ok_bind, pure_eq_ok] at hs
    cases hs
    have : ¬ (rest ++ [x]).length < N := by
      rw [List.length_append, List.length_singleton]
      exact Nat.not_lt.mpr hfull
    simp only [smaCore, this, if_false, assertFinite_exact, ok_bind, pure_eq_ok] at hn
    cases hn

theorem entropy (N : Nat) : (bentCore (α := α) N).ReadyStable := by
  intro s x s' _ hs hn
  -- whether or not a value was evicted, the step ends by pushing `x`
  have hq : s'.q ≠ [] := by
    simp only [bentCore] at hs
    split at hs <;> (obtain ⟨s1, -, hs⟩ := bind_eq_ok.mp hs; cases hs; exact List.cons_ne_nil _ _)
  simp only [bentCore, List.isEmpty_iff, hq, if_false, pure_eq_ok] at hn
  cases hn

theorem hln (N : Nat) : (hlnCore (α := α) N).ReadyStable :=
  of_always _ fun s h => by
    simp only [hlnCore, assertFinite_exact, ok_bind, pure_eq_ok] at h
    split at h <;> cases h

theorem cti (N : Nat) : (ctiCore (α := α) N).ReadyStable :=
  of_always _ fun s h => by
    simp only [ctiCore, assertFinite_exact, ok_bind, pure_eq_ok] at h
    split at h <;> cases h

/-! Cumulative, Min, Max: whether or not the window was full, the step ends by storing a value -/
theorem cum (N : Nat) : (cumCore (α := α) N).ReadyStable :=
  of_set _ (fun s => s.out) (fun _ => rfl) fun s x s' hs => by
    simp only [cumCore, assertFinite_exact, ok_bind, pure_eq_ok] at hs
    split at hs
    · obtain ⟨p, -, hs⟩ := bind_eq_ok.mp hs
      obtain ⟨o, -, hs⟩ := bind_eq_ok.mp hs
      cases hs
      exact ⟨_, rfl⟩
    · obtain ⟨o, -, hs⟩ := bind_eq_ok.mp hs
      cases hs
      exact ⟨_, rfl⟩

theorem wmin (N : Nat) : (minCoreU (α := α) N).ReadyStable :=
  of_set _ (fun s => s.opt) (fun _ => rfl) fun s x s' hs => by
    simp only [minCoreU, ok_bind, pure_eq_ok] at hs
    split at hs
    · obtain ⟨p, -, hs⟩ := bind_eq_ok.mp hs
      cases hs
      exact ext_push_some (x < ·) x _
    · cases hs
      exact ext_push_some (x < ·) x _

theorem wmax (N : Nat) : (maxCoreU (α := α) N).ReadyStable :=
  of_set _ (fun s => s.opt) (fun _ => rfl) fun s x s' hs => by
    simp only [maxCoreU, ok_bind, pure_eq_ok] at hs
    split at hs
    · obtain ⟨p, -, hs⟩ := bind_eq_ok.mp hs
      cases hs
      exact ext_push_some (· < x) x _
    · cases hs
      exact ext_push_some (· < x) x _

/-! RateOfChange, TrendFlex, ReFlex, NET hold their last answer where they compute no new one -/
theorem roc (N : Nat) : (rocCore (α := α) N).ReadyStable :=
  of_keep _ (fun s => s.out) (fun _ => rfl) fun s x s' hs => by
    simp only [rocCore, assertFinite_exact, ok_bind, pure_eq_ok] at hs
    -- with the reference value `oldest` at hand: no reference or a zero one keeps the answer, any other sets it
    have key : ∀ (oldest : Option α) (q : List α),
        (match oldest with
          | none => (Except.ok { oldest := oldest, q := q, out := s.out } : M (RocState α))
          | some o =>
            if (o == nat 0) = true then Except.ok { oldest := oldest, q := q, out := s.out }
            else Except.ok { oldest := oldest, q := q, out := some ((x - o) / o * nat 100) }) = .ok s' →
        (∃ o, s'.out = some o) ∨ s'.out = s.out := fun oldest q h => by
      cases oldest with
      | none => cases h; exact Or.inr rfl
      | some o =>
        dsimp only at h
        split at h <;> cases h
        · exact Or.inr rfl
        · exact Or.inl ⟨_, rfl⟩
    split at hs
    · obtain ⟨p, -, hs⟩ := bind_eq_ok.mp hs
      exact key _ _ hs
    · exact key _ _ hs

theorem flexEmit_keep (N : Nat) (lastM v : α) (q : List α) (dsum : α) (dflt : Option α) (s' : FlexState α)
    (h : flexEmit N lastM v q dsum dflt = .ok s') : (∃ o, s'.out = some o) ∨ s'.out = dflt := by
  simp only [flexEmit, assertFinite_exact, ok_bind, pure_eq_ok] at h
  split at h
  · cases h; exact Or.inl ⟨_, rfl⟩
  · cases h; exact Or.inr rfl

theorem reFlex (N : Nat) : (rflexCore (α := α) N).ReadyStable :=
  of_keep _ (fun s => s.out) (fun _ => rfl) fun s x s' hs => by
    simp only [rflexCore] at hs
    obtain ⟨filt, -, hs⟩ := bind_eq_ok.mp hs
    obtain ⟨fr, -, hs⟩ := bind_eq_ok.mp hs
    obtain ⟨dsum, -, hs⟩ := bind_eq_ok.mp hs
    exact flexEmit_keep _ _ _ _ _ _ _ hs

theorem trendFlex (N : Nat) : (tflexCore (α := α) N).ReadyStable :=
  of_keep _ (fun s => s.out) (fun _ => rfl) fun s x s' hs => by
    simp only [tflexCore] at hs
    obtain ⟨filt, -, hs⟩ := bind_eq_ok.mp hs
    obtain ⟨dsum, -, hs⟩ := bind_eq_ok.mp hs
    -- TrendFlex's fallback is `some 0`, so the kept case is `some` too
    exact Or.inl ((flexEmit_keep _ _ _ _ _ _ _ hs).elim id fun h => ⟨_, h⟩)

theorem net (N : Nat) : (netCore (α := α) N).ReadyStable :=
  of_keep _ (fun s => s.out) (fun _ => rfl) fun s x s' hs => by
    simp only [netCore, assertFinite_exact, ok_bind, pure_eq_ok] at hs
    generalize (if N ≤ s.q.length then s.q.tail else s.q) = q at hs
    split at hs
    · cases hs; exact Or.inr rfl
    · obtain ⟨num, -, hs⟩ := bind_eq_ok.mp hs
      cases hs; exact Or.inl ⟨_, rfl⟩

end SF.Ready
