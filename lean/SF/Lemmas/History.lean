import SF.Lemmas.Generic
import SF.Lemmas.Index
/-
  A core and its history.  `Core.outAfter` (what a core reports after a history, a panic anywhere being an error) and the two
  ways "state machine = batch definition" is proved for every history: an invariant that RELATES the state to the history
  (`Core.run_invariant_init`, `Core.outAfter_of_inv`), or a closed form of the state as a FUNCTION of the history
  (`Core.Tracks`, from which run and output are read off).  No algebra, any scalar type.
-/
namespace SF
variable {α : Type}

/-- The invariant principle, for streams whose values all satisfy `P`.  `Inv` relates a state to the WHOLE history: hence
`pre`, the part of it fed before this run began. -/
theorem Core.run_invariant_on (B : Core α) (P : α → Prop) (Inv : B.σ → List α → Prop)
    (hstep : ∀ s pre x, P x → Inv s pre → ∃ s', B.step s x = .ok s' ∧ Inv s' (pre ++ [x]))
    (s : B.σ) (pre : List α) (h : Inv s pre) (xs : List α) (hx : ∀ x ∈ xs, P x) :
    ∃ s', B.run s xs = .ok s' ∧ Inv s' (pre ++ xs) := by
  induction xs generalizing s pre with
  | nil => exact ⟨s, rfl, by simpa using h⟩
  | cons x xs ih =>
    obtain ⟨s1, h1, hi1⟩ := hstep s pre x (hx x List.mem_cons_self) h
    obtain ⟨s2, h2, hi2⟩ := ih s1 (pre ++ [x]) hi1 (fun y hy => hx y (List.mem_cons_of_mem x hy))
    exact ⟨s2, bind_eq_ok.mpr ⟨s1, h1, h2⟩, by simpa using hi2⟩

/-- The form the view files use (`X.Inv`, `X.init_inv`, `X.step_ok` give `X.run_ok`).  In `step_ok`, rewrite the state's fields by
the invariant first and state what decides the model's `if`s about the REWRITTEN shape (`N ≤ (old :: rest).length`, not
`N ≤ s.q.length`): `simp` rewrites inside the condition before a hypothesis about the old shape can fire. -/
theorem Core.run_invariant_init (B : Core α) (Inv : B.σ → List α → Prop) (h0 : Inv B.init [])
    (hstep : ∀ s pre x, Inv s pre → ∃ s', B.step s x = .ok s' ∧ Inv s' (pre ++ [x])) (xs : List α) :
    ∃ s', B.run B.init xs = .ok s' ∧ Inv s' xs := by
  simpa using Core.run_invariant_on B (fun _ => True) Inv (fun s pre x _ => hstep s pre x) B.init [] h0 xs fun _ _ => trivial

theorem Core.inv_of_run {B : Core α} {Inv : B.σ → List α → Prop}
    (hrun : ∀ xs, ∃ s, B.run B.init xs = .ok s ∧ Inv s xs) {xs : List α} {s : B.σ}
    (h : B.run B.init xs = .ok s) : Inv s xs := by
  obtain ⟨s', hs, hi⟩ := hrun xs
  cases h.symm.trans hs
  exact hi

/-- what a core over Echo reports after the history `xs` (a panic anywhere is an error) -/
def Core.outAfter (B : Core α) (xs : List α) : M (Option α) := B.run B.init xs >>= B.out

theorem Core.outAfter_of_inv (B : Core α) (Inv : B.σ → List α → Prop) (spec : List α → Option α)
    (hrun : ∀ xs, ∃ s, B.run B.init xs = .ok s ∧ Inv s xs)
    (hout : ∀ s xs, Inv s xs → B.out s = .ok (spec xs)) (xs : List α) :
    B.outAfter xs = .ok (spec xs) := by
  obtain ⟨s, hs, hi⟩ := hrun xs
  exact bind_eq_ok.mpr ⟨s, hs, hout s xs hi⟩

/-- `f` is a closed form of the state after the history `xs` (`lastN N`, `st N`, …); `step` must succeed for EVERY next
value.  Run and output are then read off `f`.  Where the state is only related to the history, or the values are restricted,
use `Core.run_invariant_init` / `Core.run_invariant_on`.  The smallest instance is `Cti.tracks` (the state is the window
itself); the usual proof of `step` cases on `lastN_cases` and names the monad's and the deque's equations (`ok_bind`,
`pure_eq_ok`, `popFront_cons`: none of them is a global simp lemma) in one `simp`. -/
structure Core.Tracks (B : Core α) (f : List α → B.σ) : Prop where
  init : f [] = B.init
  step : ∀ xs x, B.step (f xs) x = .ok (f (xs ++ [x]))

namespace Core.Tracks
variable {B : Core α} {f : List α → B.σ}

theorem run (h : B.Tracks f) (xs : List α) : B.run B.init xs = .ok (f xs) := by
  obtain ⟨s, hs, rfl⟩ := Core.run_invariant_init B (fun s xs => s = f xs) h.init.symm
    (fun _ pre x hs => ⟨_, hs ▸ h.step pre x, rfl⟩) xs
  exact hs

theorem outAfter (h : B.Tracks f) (xs : List α) : B.outAfter xs = B.out (f xs) := by
  rw [Core.outAfter, h.run, ok_bind]
end Core.Tracks

end SF
