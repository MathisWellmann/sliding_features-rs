import SF.Lemmas.Invariance
import SF.Lemmas.Roc
import SF.Lemmas.LagRsi
import SF.Lemmas.Eft
import SF.Lemmas.Linear
/-
  The specs that are folds over the history — Roc, LaguerreRSI (x ↦ a·x) and the Fisher transform (x ↦ a·x + b): for each
  the one step of the fold commutes with the map on states and inputs; `foldl_map_hom` then carries it through the fold.
-/
namespace SF.FoldInv
open SF.Spec SF.Invar
variable {α : Type} [Field α] [LinearOrder α] [IsStrictOrderedRing α]

/-! ### Roc: the state (output, history) ↦ (output, a·history) -/
theorem roc_step_scale (N : Nat) (a : α) (ha : a ≠ 0) (x0 : α) (acc : Option α × List α) (x : α) :
    Roc.stepR N (a * x0) (acc.1, acc.2.map fun x => a * x) (a * x)
      = ((Roc.stepR N x0 acc x).1, (Roc.stepR N x0 acc x).2.map fun x => a * x) := by
  have hl : (acc.2.map fun x => a * x) ++ [a * x] = (acc.2 ++ [x]).map fun x => a * x := by simp
  -- the base (looked up in the scaled history, or a·x0) is a·base; a cancels in the test base = 0 and in the ratio
  simp only [Roc.stepR, List.length_append, List.length_map, List.length_singleton, hl, List.getElem?_map,
    Option.getD_map, ← apply_ite (a * ·), beq_iff_eq, nat_eq, Nat.cast_zero, Nat.cast_ofNat, mul_eq_zero, ha, false_or,
    ← mul_sub, mul_left_comm _ a, mul_div_mul_left _ _ ha]

/-! ### LaguerreRSI: the state (ladder, output) ↦ (a·ladder, output) -/
omit [LinearOrder α] [IsStrictOrderedRing α] in
theorem ladder_scale (g a : α) (s : α × α × α × α) (xs : List α) :
    lagLadder g (a * s.1, a * s.2.1, a * s.2.2.1, a * s.2.2.2) (xs.map fun x => a * x)
      = (a * (lagLadder g s xs).1, a * (lagLadder g s xs).2.1, a * (lagLadder g s xs).2.2.1, a * (lagLadder g s xs).2.2.2) := by
  simpa [Linear.lin_self_scale] using Linear.ladder_lin g a 0 s s xs xs rfl

theorem cucd_scale (a : α) (ha : 0 < a) (x0 x1 x2 x3 : α) :
    LagRsi.cucd (a * x0) (a * x1) (a * x2) (a * x3) = (a * (LagRsi.cucd x0 x1 x2 x3).1, a * (LagRsi.cucd x0 x1 x2 x3).2) := by
  have hle : ∀ u v : α, (a * u ≤ a * v) ↔ (u ≤ v) := fun u v => mul_le_mul_iff_right₀ ha
  simp only [LagRsi.cucd, hle, nat_eq, Nat.cast_zero, ← mul_sub, mul_add, apply_ite (a * ·), mul_zero]

theorem lagRsi_step_scale (g a : α) (ha : 0 < a) (acc : (α × α × α × α) × Option α) (x : α) :
    LagRsi.stepS g ((a * acc.1.1, a * acc.1.2.1, a * acc.1.2.2.1, a * acc.1.2.2.2), acc.2) (a * x)
      = ((a * (LagRsi.stepS g acc x).1.1, a * (LagRsi.stepS g acc x).1.2.1, a * (LagRsi.stepS g acc x).1.2.2.1,
          a * (LagRsi.stepS g acc x).1.2.2.2), (LagRsi.stepS g acc x).2) := by
  have hl := ladder_scale g a acc.1 [x]
  simp only [List.map_cons, List.map_nil] at hl
  -- the ladder scales by a, hence CU and CD do; a cancels in the test CU + CD = 0 and in CU/(CU + CD)
  simp only [LagRsi.stepS, hl, cucd_scale a ha, ← mul_add, nat_eq, Nat.cast_zero, beq_iff_eq, mul_eq_zero, ha.ne', false_or,
    mul_div_mul_left _ _ ha.ne']

/-! ### the Fisher transform: the state (history, output, fed) ↦ (a·history + b, output, fed) -/
variable [Transc α]
/-- the output part only sees the normalised value, which is affine-invariant -/
theorem fishEmit_affine (ma : List α → Option α) (prev : Option α) (fed : List α) (a b : α) (ha : a ≠ 0) (hi lo x : α) :
    Eft.fishEmit ma prev fed (a * hi + b) (a * lo + b) (a * x + b) = Eft.fishEmit ma prev fed hi lo x := by
  simp only [Eft.fishEmit, beq_iff_eq, add_left_inj, mul_right_inj' ha, minmax_affine a b lo hi x ha]

theorem fishStep_affine (N : Nat) (ma : List α → Option α) (a b : α) (ha : 0 < a) (acc : List α × Option α × List α) (x : α) :
    Eft.fishStep N ma (acc.1.map (fun x => a * x + b), acc.2.1, acc.2.2) (a * x + b)
      = ((Eft.fishStep N ma acc x).1.map (fun x => a * x + b), (Eft.fishStep N ma acc x).2.1, (Eft.fishStep N ma acc x).2.2) := by
  have hf := (affine_strictMono a b ha).monotone
  simp only [Eft.fishStep]
  rw [show acc.1.map (fun x => a * x + b) ++ [a * x + b] = (acc.1 ++ [x]).map (fun x => a * x + b) by simp,
    lastN_map, minL_map_of_monotone _ hf, maxL_map_of_monotone _ hf]
  cases minL (lastN N (acc.1 ++ [x])) with
  | none => rfl
  | some lo =>
    cases maxL (lastN N (acc.1 ++ [x])) with
    | none => rfl
    | some hi => simp only [Option.map_some, fishEmit_affine ma _ _ a b ha.ne']

end SF.FoldInv
