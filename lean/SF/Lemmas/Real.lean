import SF.Lemmas.Field
import Mathlib.Analysis.SpecialFunctions.Log.Base
import Mathlib.Analysis.SpecialFunctions.Trigonometric.Basic
/- The model at ℝ: `Transc` is interpreted by the real functions. -/
namespace SF
noncomputable instance : Transc ℝ where
  sqrt := Real.sqrt
  exp := Real.exp
  ln := Real.log
  log2 := Real.logb 2
  cos := Real.cos
  sin := Real.sin
  tanh := Real.tanh

/-- `T::min_value()` / `T::max_value()` are only used as sentinels below / above all inputs; at ℝ any negative /
positive number will do for the theorems (they assume `minValue < 0` only). -/
noncomputable instance : FloatLike ℝ where
  isFinite _ := true
  isNaN _ := false
  minValue := -1
  maxValue := 1

instance : ExactScalar ℝ := ⟨fun _ => rfl, fun _ => rfl⟩

@[simp] theorem transc_sqrt_real (x : ℝ) : Transc.sqrt x = Real.sqrt x := rfl
@[simp] theorem transc_tanh_real (x : ℝ) : Transc.tanh x = Real.tanh x := rfl
@[simp] theorem transc_ln_real (x : ℝ) : Transc.ln x = Real.log x := rfl
@[simp] theorem transc_exp_real (x : ℝ) : Transc.exp x = Real.exp x := rfl
@[simp] theorem transc_log2_real (x : ℝ) : Transc.log2 x = Real.logb 2 x := rfl
@[simp] theorem transc_cos_real (x : ℝ) : Transc.cos x = Real.cos x := rfl
@[simp] theorem transc_sin_real (x : ℝ) : Transc.sin x = Real.sin x := rfl
/-- at ℝ the hypothesis `hmin` of `C13.drawdown_eq` and `C07.drawdown_view_range` holds -/
theorem minValue_real_neg : (FloatLike.minValue : ℝ) < 0 := by norm_num [FloatLike.minValue]
end SF
