import SF.Lemmas.MinMax
import SF.Lemmas.SpecFacts
/- HLNormalizer: cached min / max are the extrema of exactly the last N values; output = 2(x−min)/(max−min) − 1. -/
namespace SF.Hln
open Spec MinMax

variable {α : Type} [LinearOrder α]

theorem extentQueue_ok (f : α) (r : List α) :
    ∃ m M, extentQueue (f :: r) = .ok (m, M) ∧ minL (f :: r) = some m ∧ maxL (f :: r) = some M := by
  refine ⟨_, _, ?_, minL_eq_some.mpr (foldl_isLeast (fun m v => if v < m then v else m) ite_lt_min' r f),
    maxL_eq_some.mpr (foldl_isGreatest (fun M v => if M < v then v else M) (fun m y => (max_def_lt m y).symm) r f)⟩
  simp only [extentQueue, front_cons, ok_bind, pure_eq_ok, List.foldl_cons, lt_irrefl, if_false]
  exact congrArg _ (foldl_pair (fun m v => if v < m then v else m) (fun M v => if M < v then v else M) r f f)

/-- the newest value lies between the extrema of the window -/
theorem newest_mem_Icc (N : Nat) (hN : 0 < N) {xs : List α} {x lo hi : α} (hx : xs.getLast? = some x)
    (hlo : minL (lastN N xs) = some lo) (hhi : maxL (lastN N xs) = some hi) : lo ≤ x ∧ x ≤ hi :=
  have hmem := mem_lastN_of_getLast N hN xs x hx
  ⟨(minL_eq_some.mp hlo).2 hmem, (maxL_eq_some.mp hhi).2 hmem⟩

variable [Field α]

/-- the state after the history `xs` (the fields are 0 before the first value) -/
def st (N : Nat) (xs : List α) : HlnState α :=
  { q := lastN N xs, min := (minL (lastN N xs)).getD 0, max := (maxL (lastN N xs)).getD 0, last := (xs.getLast?).getD 0,
    init := xs.isEmpty }

/-- the tail of the update, on a state whose `min` / `max` are the extrema of its deque (and the new value itself when the
deque is empty) -/
theorem finish_eq (t : HlnState α) (v : α) (hmin : (minL t.q).getD v = t.min) (hmax : (maxL t.q).getD v = t.max) :
    hlnFinish t v = { q := t.q ++ [v], min := (minL (t.q ++ [v])).getD 0, max := (maxL (t.q ++ [v])).getD 0, last := v,
                      init := t.init } := by
  have e : hlnFinish t v = ⟨t.q ++ [v], if v < t.min then v else t.min, if t.max < v then v else t.max, v, t.init⟩ := by
    unfold hlnFinish
    by_cases h1 : t.max < v
    · by_cases h2 : v < t.min <;> simp [h1, h2]
    · by_cases h2 : v < t.min <;> simp [h1, h2]
  rw [e, minL_snoc_getD _ v _ hmin, maxL_snoc_getD _ v _ hmax]
  rfl

variable [FloatLike α]

theorem tracks (N : Nat) (hN : 0 < N) : (hlnCore (α := α) N).Tracks (st N) where
  init := by simp [st, hlnCore, minL, maxL]
  step xs x := by
    have key : ∀ t : HlnState α, t.q = lastN (N - 1) xs → (minL t.q).getD x = t.min → (maxL t.q).getD x = t.max →
        t.init = false → hlnFinish t x = st N (xs ++ [x]) := fun t hq hmin hmax hi => by
      rw [finish_eq t x hmin hmax, hq, hi]; simp [st, lastN_snoc N hN]
    rcases eq_or_ne xs [] with rfl | hne
    · -- the very first value initialises min, max and last
      have hnf : ¬ N ≤ 0 := by omega
      simp only [hlnCore, st, lastN_nil, List.isEmpty_nil, if_true, List.length_nil, hnf, if_false, pure_eq_ok, ok_bind]
      exact congrArg _ (key _ (by simp) rfl rfl rfl)
    have hi : xs.isEmpty = false := by simpa using hne
    rcases lastN_cases N hN xs with ⟨hlt, hw, hw'⟩ | ⟨old, hle, hw, hlen⟩
    · obtain ⟨m, hm⟩ := exists_minL hne
      obtain ⟨M, hM⟩ := exists_maxL hne
      simp only [hlnCore, st, hi, hw, Bool.false_eq_true, if_false, Nat.not_le.mpr hlt, pure_eq_ok, ok_bind]
      exact congrArg _ (key _ hw'.symm (by simp [hm]) (by simp [hM]) rfl)
    · obtain ⟨m, hm⟩ := exists_minL (List.cons_ne_nil old (lastN (N - 1) xs))
      obtain ⟨M, hM⟩ := exists_maxL (List.cons_ne_nil old (lastN (N - 1) xs))
      have hfull : N ≤ (old :: lastN (N - 1) xs).length := by simp [hlen]
      simp only [hlnCore, st, hi, hw, hm, hM, Option.getD_some, Bool.false_eq_true, if_false, hfull, if_true, popFront_cons,
        pure_eq_ok, ok_bind]
      by_cases hext : old ≤ m ∨ M ≤ old
      · -- the evicted value may have been an extremum: rescan (or restart from `x` if nothing is left)
        rw [if_pos (by simpa using hext)]
        rcases hr : lastN (N - 1) xs with _ | ⟨f, r⟩
        · simp only [List.isEmpty_nil, if_true]
          exact congrArg _ (key _ hr.symm (by simp [minL]) (by simp [maxL]) rfl)
        · obtain ⟨m', M', he, hm', hM'⟩ := extentQueue_ok f r
          simp only [List.isEmpty_cons, Bool.false_eq_true, if_false, he, ok_bind]
          exact congrArg _ (key _ hr.symm (by simp [hm']) (by simp [hM']) rfl)
      · -- it lay strictly inside: both extrema survive
        rw [if_neg (by simpa using hext)]
        rw [not_or, not_le, not_le] at hext
        exact congrArg _ (key _ rfl (by simp [minL_tail_of_ne hm hext.1.ne']) (by simp [maxL_tail_of_ne hM hext.2.ne]) rfl)

variable [ExactScalar α]

theorem out_st (N : Nat) (hN : 0 < N) (xs : List α) : (hlnCore N).out (st N xs) = .ok (Spec.hln N xs) := by
  -- `out` is restated so that it alone is unfolded, not the whole core (which is slow to check)
  show (if (st N xs).last == (st N xs).min && (st N xs).last == (st N xs).max then pure (some (nat 0)) else do
      let o := -(nat 1) + ((((st N xs).last - (st N xs).min) * nat 2) / ((st N xs).max - (st N xs).min))
      assertFinite o
      pure (some o)) = _
  rcases eq_or_ne xs [] with rfl | hne
  · simp [st, Spec.hln, minL, maxL, pure_eq_ok]
  · -- the newest value lies in the window, hence between the extrema
    have hw : lastN N xs ≠ [] := (lastN_ne_nil hN).mpr (List.length_pos_of_ne_nil hne)
    obtain ⟨lo, hlo⟩ := exists_minL hw
    obtain ⟨hi, hhi⟩ := exists_maxL hw
    obtain ⟨x, hx⟩ := Option.ne_none_iff_exists'.mp (mt List.getLast?_eq_none_iff.mp hne)
    obtain ⟨h1, h2⟩ := newest_mem_Icc N hN hx hlo hhi
    simp only [st, Spec.hln, hlo, hhi, hx, Option.getD_some, nat_eq, Nat.cast_zero, Nat.cast_one, Nat.cast_ofNat]
    by_cases heq : hi = lo
    · subst heq; simp [le_antisymm h2 h1, pure_eq_ok]
    · have hne' : ¬ (x = lo ∧ x = hi) := fun ⟨a, b⟩ => heq (b.symm.trans a)
      simp [heq, hne', pure_eq_ok, ok_bind]; ring

end SF.Hln
