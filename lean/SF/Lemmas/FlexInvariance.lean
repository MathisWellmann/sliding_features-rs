import SF.Lemmas.SpecFacts
import SF.Lemmas.Linear
import SF.Lemmas.Flex
import SF.Lemmas.Real
/-
  TrendFlex / ReFlex under x ↦ a·x, a ≠ 0, at ℝ: the output is multiplied by the sign a/|a| (a > 0: unchanged, a = −1: negated).
  The smoother and the deviations are homogeneous (any field), the normalisation fold divides |a| out.
-/
namespace SF.FlexInv
open SF.Spec

section
variable {α : Type} [Field α]

theorem dsG_scale (D : List α → Nat → α) (hD : ∀ (a : α) (fs : List α) (t : Nat), D (fs.map fun x => a * x) t = a * D fs t)
    (a : α) (fs : List α) : Flex.dsG D (fs.map fun x => a * x) = (Flex.dsG D fs).map fun x => a * x := by
  simp only [Flex.dsG, List.length_map, List.map_map]
  exact List.map_congr_left fun t _ => hD a fs t

/-- the smoother is homogeneous in (stream, pad): linearity with the second stream weighted 0 -/
theorem smoothSeq_scale (c : Coef α) (a pad : α) (xs : List α) :
    smoothSeq c (a * pad) (xs.map fun x => a * x) = (smoothSeq c pad xs).map fun x => a * x := by
  have := Linear.foldState_lin c a 0 pad pad xs xs rfl
  rw [Linear.lin_self_scale, Linear.lin_self_scale, zero_mul, add_zero] at this
  rw [SS.smoothSeq_eq, SS.smoothSeq_eq, this]

theorem getD_map_mul (a : α) (l : List α) (i : Nat) : (l.map fun x => a * x)[i]?.getD (nat 0) = a * l[i]?.getD (nat 0) := by
  rw [List.getElem?_map]
  cases l[i]? <;> simp

/-- a window sum over a divisor scales by `a` when each term does -/
theorem sumL_div_scale {ι : Type} (a c : α) (g g' : ι → α) (h : ∀ i, g' i = a * g i) (l : List ι) :
    sumL (l.map g') / c = a * (sumL (l.map g) / c) := by
  rw [funext h, sumL_map_mul_left, mul_div_assoc]

theorem D_scale (N : Nat) (a : α) (fs : List α) (t : Nat) : TrendFlex.D N (fs.map fun x => a * x) t = a * TrendFlex.D N fs t := by
  simp only [TrendFlex.D, getD_map_mul]
  exact sumL_div_scale a _ _ _ (fun i => by ring) _

theorem rD_scale (N : Nat) (a : α) (fs : List α) (t : Nat) : ReFlex.D N (fs.map fun x => a * x) t = a * ReFlex.D N fs t := by
  simp only [ReFlex.D, getD_map_mul]
  exact sumL_div_scale a _ _ _ (fun i => by ring) _
end

section real
/-- the normalisation fold under d ↦ a·d, a ≠ 0: the mean square scales by a², the output by the sign a/|a| -/
theorem norm_fold_scale (hold : Bool) (a : ℝ) (ha : a ≠ 0) (ds : List ℝ) (acc : ℝ × Option ℝ) :
    (ds.map fun d => a * d).foldl (Flex.normStep hold) (a * a * acc.1, acc.2.map fun v => a / |a| * v)
      = (a * a * (ds.foldl (Flex.normStep hold) acc).1, (ds.foldl (Flex.normStep hold) acc).2.map fun v => a / |a| * v) := by
  refine Spec.foldl_map_hom (fun acc : ℝ × Option ℝ => (a * a * acc.1, acc.2.map fun v => a / |a| * v)) (fun d => a * d)
    (fun acc d => ?_) ds acc
  simp only [Flex.normStep, dec_eq, sq_eq, nat_eq, Nat.cast_zero, Nat.cast_ofNat, transc_sqrt_real]
  have e : (4 : ℝ) / 100 * (a * d * (a * d)) + 96 / 100 * (a * a * acc.1) = a * a * (4 / 100 * (d * d) + 96 / 100 * acc.1) := by ring
  rw [e]
  set ms := (4 : ℝ) / 100 * (d * d) + 96 / 100 * acc.1
  have haa : 0 < a * a := mul_self_pos.2 ha
  refine Prod.ext rfl ?_
  dsimp only
  -- a²·ms > 0 ⟺ ms > 0, and then √(a²·ms) = |a|·√ms leaves a/|a| of a·d
  simp only [mul_pos_iff_of_pos_left haa]
  by_cases hm : 0 < ms
  · simp only [hm, if_true, Option.map_some]
    rw [Real.sqrt_mul haa.le, Real.sqrt_mul_self_eq_abs]
    have hs : 0 < Real.sqrt ms := Real.sqrt_pos.mpr hm
    have ha' : |a| ≠ 0 := abs_ne_zero.2 ha
    congr 1; field_simp
  · cases hold <;> simp [hm]

/-- TrendFlex / ReFlex see x ↦ a·x (a ≠ 0) only through the sign of a -/
theorem specG_scale (hold : Bool) (D : List ℝ → Nat → ℝ)
    (hD : ∀ (a : ℝ) (fs : List ℝ) (t : Nat), D (fs.map fun x => a * x) t = a * D fs t) (N : Nat) (a : ℝ) (ha : a ≠ 0) (xs : List ℝ) :
    Flex.specG hold D N (xs.map fun x => a * x) = (Flex.specG hold D N xs).map fun v => a / |a| * v := by
  cases xs with
  | nil => rfl
  | cons x0 r =>
    rw [List.map_cons, Flex.specG_cons, Flex.specG_cons, ← List.map_cons, smoothSeq_scale, ← List.map_reverse, dsG_scale D hD]
    have := norm_fold_scale hold a ha (Flex.dsG D (smoothSeq (flexCoef N) x0 (x0 :: r)).reverse) (nat 0, none)
    simp only [nat_eq, Nat.cast_zero, mul_zero, Option.map_none] at this ⊢
    rw [this]

end real
end SF.FlexInv
