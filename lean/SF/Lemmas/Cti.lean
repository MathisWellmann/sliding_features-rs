import SF.Lemmas.Field
import SF.Model.Window
/- CorrelationTrendIndicator: the enumerate-loop computes the five sums of the Pearson formula over the window. -/
namespace SF.Cti
open Spec
variable {α : Type} [Field α]

/-- time indices k, k+1, …, k+n−1 as scalars -/
def idx (k n : Nat) : List α := (List.range' k n).map fun i => (nat i : α)

theorem idx_succ (k n : Nat) : idx (α := α) k (n + 1) = (nat k : α) :: idx (k + 1) n := by
  simp [idx, List.range'_succ]

/-- the model's loop, started at time index `k` with the sums `a` -/
theorem fold_eq (l : List α) (k : Nat) (a : CtiSums α) :
    (l.zipIdx k).foldl (fun (a : CtiSums α) (vi : α × Nat) =>
        let count : α := nat vi.2
        { sx := a.sx + vi.1, sy := a.sy + count, sxx := a.sxx + sq vi.1, sxy := a.sxy + vi.1 * count,
          syy := a.syy + sq count }) a
      = { sx := a.sx + sumL l, sy := a.sy + sumL (idx k l.length), sxx := a.sxx + sumL (l.map sq),
          sxy := a.sxy + Alma.dot l (idx k l.length), syy := a.syy + sumL ((idx k l.length).map sq) } := by
  induction l generalizing k a with
  | nil => simp [idx, Alma.dot]
  | cons x r ih =>
    simp only [List.zipIdx_cons, List.foldl_cons, List.length_cons, idx_succ, ih (k + 1)]
    simp only [sumL_cons, List.map_cons, Alma.dot]
    congr 1 <;> ring

theorem ctiSums_eq (q : List α) :
    ctiSums q = { sx := sumL q, sy := sumL (idx 0 q.length), sxx := sumL (q.map sq), sxy := Alma.dot q (idx 0 q.length),
                  syy := sumL ((idx 0 q.length).map sq) } := by
  have := fold_eq q 0 ({ sx := 0, sy := 0, sxx := 0, sxy := 0, syy := 0 } : CtiSums α)
  simp only [zero_add] at this
  simp only [ctiSums, nat_eq, Nat.cast_zero]
  exact this

theorem idx_eq_range (n : Nat) : idx (α := α) 0 n = (List.range n).map fun k => (nat k : α) := by
  simp [idx, List.range_eq_range']

variable [LinearOrder α] [Transc α]

/-- the Pearson formula in terms of the model's sums -/
theorem pearson_eq (w : List α) :
    pearsonIdx w =
      (let a := ctiSums w
       let n : α := nat w.length
       if nat 0 < n * a.sxx - sq a.sx && nat 0 < n * a.syy - sq a.sy
       then (n * a.sxy - a.sx * a.sy) / Transc.sqrt ((n * a.sxx - sq a.sx) * (n * a.syy - sq a.sy)) else nat 0) := by
  simp only [pearsonIdx, ctiSums_eq, Alma.dot_eq, idx_eq_range]

variable [FloatLike α]

theorem tracks (N : Nat) (hN : 0 < N) : (ctiCore (α := α) N).Tracks (lastN N) where
  init := by simp [ctiCore]
  step xs x := by
    rcases lastN_cases N hN xs with ⟨hlt, hw, hw'⟩ | ⟨old, hle, hw, hlen⟩
    · simp [ctiCore, lastN_snoc N hN, hw, hw', Nat.not_le.mpr hlt, pure_eq_ok, ok_bind]
    · simp [ctiCore, lastN_snoc N hN, hw, hlen, pure_eq_ok, ok_bind, popFront_cons]

end SF.Cti
