import SF.Lemmas.Generic
/- Panic-freedom and readiness as predicates on cores / views; panic-freedom is closed under wrap / mapV / binop. -/
namespace SF
variable {α : Type}

/-- a core never panics: every run from the initial state succeeds and `out` succeeds in the state reached -/
def Core.NoPanic (B : Core α) : Prop := ∀ ys : List α, ∃ s, B.run B.init ys = .ok s ∧ ∃ o, B.out s = .ok o

/-- a view never panics on finite input: `last()` succeeds initially and `update(x); last()` succeeds along every
finite input sequence (since `last` is pure this covers every interleaving of `update` and `last` calls) -/
def View.NoPanic [FloatLike α] (V : View α) : Prop :=
  (∃ o, V.last V.init = .ok o) ∧ ∀ xs : List α, AllFinite xs → ∃ os, V.trace V.init xs = .ok os

/-- in the shape of `Core.NoPanic`: every finite run succeeds and `last()` succeeds in the state reached -/
theorem View.noPanic_iff [FloatLike α] {V : View α} :
    V.NoPanic ↔ ∀ xs, AllFinite xs → ∃ s, V.run V.init xs = .ok s ∧ ∃ o, V.last s = .ok o := by
  constructor
  · rintro ⟨h0, h⟩ xs hx
    cases xs with
    | nil => exact ⟨_, rfl, h0⟩
    | cons x xs => exact View.trace_ok_iff.mp (h _ hx) _ (List.cons_ne_nil _ _) List.prefix_rfl
  · intro h
    obtain ⟨_, h0, h1⟩ := h [] (fun _ hy => absurd hy List.not_mem_nil)
    cases h0
    exact ⟨h1, fun xs hx => View.trace_ok_iff.mpr fun pre _ hp => h pre fun y hy => hx y (hp.subset hy)⟩

/-- readiness never reverts: once `out` is `some`, it is not `none` after any further step -/
def Core.ReadyStable (B : Core α) : Prop :=
  ∀ s x s', (∃ v, B.out s = .ok (some v)) → B.step s x = .ok s' → B.out s' ≠ .ok none

/-- readiness of a complete view never reverts: once `last()` is `some`, it is not `none` after any further `update` -/
def View.ReadyStable (V : View α) : Prop :=
  ∀ s x s', (∃ v, V.last s = .ok (some v)) → V.upd s x = .ok s' → V.last s' ≠ .ok none

/-- the answers of a fed core: once `some`, never `none` again -/
def StableList : List (Option α) → Prop
  | [] => True
  | none :: r => StableList r
  | some _ :: r => (∀ o ∈ r, o ≠ none) ∧ StableList r

/-- wrapping a panic-free inner view with a panic-free core is panic-free (exact arithmetic: every value finite) -/
theorem wrap_noPanic [FloatLike α] (hfin : ∀ x : α, FloatLike.isFinite x = true) (A : View α) (B : Core α)
    (hA : A.NoPanic) (hB : B.NoPanic) : (wrap A B).NoPanic := by
  refine View.noPanic_iff.mpr fun xs hx => ?_
  obtain ⟨os, hos⟩ := hA.2 xs hx
  obtain ⟨a', ha'⟩ := View.trace_ok_run hos
  obtain ⟨b', hb', ho⟩ := hB (os.filterMap id)
  exact ⟨(a', b'), (wrap_run_eq_ok hx).mpr ⟨os, hos, ha', fun v _ => hfin v, hb'⟩, ho⟩

/-- `Tanh`-style mapping preserves panic-freedom -/
theorem mapV_noPanic [FloatLike α] (hfin : ∀ x : α, FloatLike.isFinite x = true) (f : α → α) (A : View α)
    (hA : A.NoPanic) : (mapV f A).NoPanic := by
  refine View.noPanic_iff.mpr fun xs hx => ?_
  obtain ⟨s, hs, o, ho⟩ := View.noPanic_iff.mp hA xs hx
  exact ⟨s, (mapV_run f A _ hx).trans hs, _, mapV_last_eq_ok.mpr ⟨o, ho, fun v _ => hfin v, rfl⟩⟩

/-- a combining node whose function is total on the values its children report (Add, Subtract, Multiply; Divide away from a
zero divisor) never panics when its children do not -/
theorem binop_noPanic [FloatLike α] (hfin : ∀ x : α, FloatLike.isFinite x = true) (f : α → α → M α)
    (hf : ∀ a b, ∃ r, f a b = .ok r) (A B : View α) (hA : A.NoPanic) (hB : B.NoPanic) : (binop f A B).NoPanic := by
  refine View.noPanic_iff.mpr fun xs hx => ?_
  obtain ⟨a, ha, oa, hoa⟩ := View.noPanic_iff.mp hA xs hx
  obtain ⟨b, hb, ob, hob⟩ := View.noPanic_iff.mp hB xs hx
  refine ⟨(a, b), binop_run f A B hx ha hb, ?_⟩
  cases oa with
  | none => exact ⟨none, binop_last_of_none hoa hob (Or.inl rfl)⟩
  | some va =>
    cases ob with
    | none => exact ⟨none, binop_last_of_none hoa hob (Or.inr rfl)⟩
    | some vb =>
      obtain ⟨r, hr⟩ := hf va vb
      exact ⟨some r, by rw [binop_last_of_some hoa hob (hfin va) (hfin vb), hr]; rfl⟩

end SF
