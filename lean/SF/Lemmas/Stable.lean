import Mathlib.Tactic.Ring
import Mathlib.Tactic.Linarith
import Mathlib.Tactic.FieldSimp
import Mathlib.Algebra.Order.Field.Basic
/-
  Stability of recursive filters, reduced to inequalities between the SIZES (absolute values, norms, Lyapunov functionals)
  of their sections.  Nothing here knows about views or ℂ: TwoPole / DoublePole / HighPass / LagfStable / RoofDecay and the
  property files C09, C10 supply the sizes.
-/
namespace SF.Stable
variable {α : Type} [Field α] [LinearOrder α] [IsStrictOrderedRing α]

/-- a sequence of sizes that shrinks by ρ at each of its first n steps has decayed by ρⁿ after them; for a fold over a list see
`foldl_geom` -/
theorem le_geom {u : ℕ → α} {ρ : α} (hρ : 0 ≤ ρ) (n : ℕ) (h : ∀ i < n, u (i + 1) ≤ ρ * u i) : u n ≤ ρ ^ n * u 0 := by
  induction n with
  | zero => simp
  | succ n ih =>
    calc u (n + 1) ≤ ρ * u n := h n n.lt_succ_self
      _ ≤ ρ * (ρ ^ n * u 0) := mul_le_mul_of_nonneg_left (ih fun i hi => h i (by omega)) hρ
      _ = ρ ^ (n + 1) * u 0 := by ring

/-- the list form: if one step of a fold shrinks a size V of two states fed the same value by ρ, the fold over a common tail
`t` shrinks it by ρ^|t| (fading memory once two streams have merged) -/
theorem foldl_geom {σ β : Type} (V : σ → σ → α) (g : σ → β → σ) {ρ : α} (hρ : 0 ≤ ρ)
    (h : ∀ s s' x, V (g s x) (g s' x) ≤ ρ * V s s') (s s' : σ) (t : List β) :
    V (t.foldl g s) (t.foldl g s') ≤ ρ ^ t.length * V s s' := by
  induction t generalizing s s' with
  | nil => simp
  | cons x t ih =>
    calc _ ≤ ρ ^ t.length * V (g s x) (g s' x) := ih _ _
      _ ≤ ρ ^ t.length * (ρ * V s s') := mul_le_mul_of_nonneg_left (h s s' x) (pow_nonneg hρ _)
      _ = _ := by rw [List.length_cons]; ring

/-- U/(1−ρ) is the fixed point of x ↦ ρ·x + U: the bound a one-pole section with pole size ρ keeps for inputs of size ≤ U -/
theorem geom_fix (ρ U : α) (hρ : ρ < 1) : ρ * (U / (1 - ρ)) + U = U / (1 - ρ) := by
  have : 1 - ρ ≠ 0 := by linarith
  field_simp; ring

/-- one section with pole size ρ, x' ≤ ρ·x + u: the state x stays within U/(1−ρ) while the input u is within U -/
theorem section_bound (ρ U : α) {x x' u : α} (hρ0 : 0 ≤ ρ) (hρ1 : ρ < 1) (hx' : x' ≤ ρ * x + u) (hx : x ≤ U / (1 - ρ)) (hu : u ≤ U) :
    x' ≤ U / (1 - ρ) := by
  have := mul_le_mul_of_nonneg_left hx hρ0
  have := geom_fix ρ U hρ1
  linarith

/-- **two contracting sections in cascade contract jointly.**  V is the size of the second section's state, U of the first's;
c and d are what fresh input adds.  For any rate r above both ρ and σ the functional V + M·U, M = κ/(r − σ), shrinks by r. -/
theorem cascade (ρ σ r κ V U V' U' c d : α) (hρ : ρ ≤ r) (hσ : σ < r) (hκ : 0 ≤ κ) (hV0 : 0 ≤ V)
    (hV : V' ≤ ρ * V + κ * U + c) (hU : U' ≤ σ * U + d) :
    V' + κ / (r - σ) * U' ≤ r * (V + κ / (r - σ) * U) + (c + κ / (r - σ) * d) := by
  have hrs : 0 < r - σ := by linarith
  have hM0 : 0 ≤ κ / (r - σ) := div_nonneg hκ hrs.le
  have e : κ + κ / (r - σ) * σ = κ / (r - σ) * r := by field_simp; ring
  calc V' + κ / (r - σ) * U' ≤ (ρ * V + κ * U + c) + κ / (r - σ) * (σ * U + d) :=
        add_le_add hV (mul_le_mul_of_nonneg_left hU hM0)
    _ = ρ * V + κ / (r - σ) * r * U + (c + κ / (r - σ) * d) := by rw [← e]; ring
    _ ≤ r * V + κ / (r - σ) * r * U + (c + κ / (r - σ) * d) := by
        have := mul_le_mul_of_nonneg_right hρ hV0
        linarith
    _ = r * (V + κ / (r - σ) * U) + (c + κ / (r - σ) * d) := by ring

/-- the case every two-pole section of the crate reduces to: both sections have pole size a < 1, the second is fed the
first's output (g' ≤ a·g + u, k' ≤ a·k + g').  With λ = 2a/(1−a) the functional k + λ·g shrinks by (1+a)/2. -/
theorem twoStage (a : α) {g k g' k' u : α} (ha0 : 0 ≤ a) (ha1 : a < 1) (hk : 0 ≤ k) (hg' : g' ≤ a * g + u) (hk' : k' ≤ a * k + g') :
    k' + 2 * a / (1 - a) * g' ≤ (1 + a) / 2 * (k + 2 * a / (1 - a) * g) + (1 + 2 * a / (1 - a)) * u := by
  have e : a / ((1 + a) / 2 - a) = 2 * a / (1 - a) := by
    have : 1 - a ≠ 0 := by linarith
    rw [show (1 + a) / 2 - a = (1 - a) / 2 by ring]; field_simp
  have := cascade a a ((1 + a) / 2) a k g k' g' u u (by linarith) (by linarith) ha0 hk (by linarith) hg'
  rw [e] at this
  linarith

/-- the same two sections (g the first, k the second, u the input, as in `twoStage`) with bounded input: g stays within
U/(1−a) and k within U/(1−a)/(1−a) — `section_bound` twice.  The hypotheses `hg'`, `hk'` are the two halves of a `*_sizes`
lemma; a goal that says U/(1−a)² is brought to this form by `rw [pow_two, ← div_div]`. -/
theorem twoStage_bound (a : α) {U g k g' k' u : α} (ha0 : 0 ≤ a) (ha1 : a < 1) (hg' : g' ≤ a * g + u) (hk' : k' ≤ a * k + g')
    (hu : u ≤ U) (hg : g ≤ U / (1 - a)) (hk : k ≤ U / (1 - a) / (1 - a)) :
    g' ≤ U / (1 - a) ∧ k' ≤ U / (1 - a) / (1 - a) :=
  have h := section_bound a U ha0 ha1 hg' hg hu
  ⟨h, section_bound a _ ha0 ha1 hk' hk h⟩

/-- the same when the second section is fed the mean of the first's two newest outputs h, hn (sizes ≤ U, U'), σ ≤ 1 -/
theorem cascade_mean {V U V' U' h hn : α} (ρ σ r κ : α) (hρ : ρ ≤ r) (hσ : σ < r) (hσ1 : σ ≤ 1) (hκ : 0 ≤ κ) (hV0 : 0 ≤ V)
    (hU0 : 0 ≤ U) (hV : V' ≤ ρ * V + κ * (|hn + h| / 2)) (hh : |h| ≤ U) (hhn : |hn| ≤ U') (hU : U' ≤ σ * U) :
    V' + κ / (r - σ) * U' ≤ r * (V + κ / (r - σ) * U) := by
  have hUU : U' ≤ U := hU.trans (mul_le_of_le_one_left hU0 hσ1)
  have hm : |hn + h| / 2 ≤ U := by
    rw [div_le_iff₀ two_pos]
    linarith only [abs_add_le hn h, hh, hhn, hUU]
  have := cascade ρ σ r κ V U V' U' 0 0 hρ hσ hκ hV0
    (by rw [add_zero]; exact hV.trans (add_le_add le_rfl (mul_le_mul_of_nonneg_left hm hκ))) (by rw [add_zero]; exact hU)
  rwa [mul_zero, add_zero, add_zero] at this

/-- p = 1 − 2/(N+1), the pole of Ema (α = 2) and the double pole of CyberCycle, lies in [0, 1) -/
theorem one_sub_two_div_succ (N : Nat) (hN : 1 ≤ N) : 0 ≤ 1 - (2 : α) / ((N : α) + 1) ∧ 1 - (2 : α) / ((N : α) + 1) < 1 := by
  have hpos : (0 : α) < (N : α) + 1 := Nat.cast_add_one_pos N
  have h2 : (2 : α) ≤ (N : α) + 1 := by exact_mod_cast Nat.succ_le_succ hN
  exact ⟨sub_nonneg.2 ((div_le_one hpos).2 h2), sub_lt_self 1 (div_pos two_pos hpos)⟩

/-- the midpoint between x < 1 and 1 -/
theorem mid_lt_one {x : α} (h : x < 1) : x < (1 + x) / 2 ∧ (1 + x) / 2 < 1 := by
  constructor <;> linarith only [h]

/-- the 1-2-2-1 tap (d0 + 2d1 + 2d2 + d3)/6 of CyberCycle's smoothing and the Laguerre output is a convex combination -/
theorem abs_tap_le (d0 d1 d2 d3 : α) : |(d0 + 2 * d1 + 2 * d2 + d3) / 6| ≤ (|d0| + 2 * |d1| + 2 * |d2| + |d3|) / 6 := by
  rw [abs_div, abs_of_pos (by norm_num : (0 : α) < 6)]
  refine div_le_div_of_nonneg_right ?_ (by norm_num)
  have h := abs_add_three (d0 + 2 * d1) (2 * d2) d3
  have h' := abs_add_le d0 (2 * d1)
  rw [abs_mul, abs_of_pos (by norm_num : (0 : α) < 2)] at h h'
  linarith only [h, h']

/-- the newest value of a newest-first list of values within K (0 before the first) -/
theorem headD_bound {K : α} (hK : 0 ≤ K) (L : List α) (h : ∀ f ∈ L, |f| ≤ K) : |L.headD 0| ≤ K := by
  cases L with
  | nil => simpa using hK
  | cons y l => exact h y (by simp)

end SF.Stable
