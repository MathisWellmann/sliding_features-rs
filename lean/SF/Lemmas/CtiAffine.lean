import SF.Lemmas.AffineMoments
/-
  CTI on an affine window: the Pearson correlation between the values a·k + b (k = 0 … n−1) and k is +1 for a > 0 and
  −1 for a < 0, for every window length n ≥ 2.  (On a monotone but non-affine window it is NOT ±1: see C06.K1.)
-/
namespace SF.CtiAffine
open SF.Spec SF.Inv2 SF.Moments

theorem sum_ks (n : Nat) : sumL (ks n) = (n : ℝ) * ((n : ℝ) - 1) / 2 := by
  induction n with
  | zero => simp [ks]
  | succ n ih =>
    simp only [ks] at ih ⊢
    rw [List.range_succ, List.map_append, sumL_append, ih]
    simp only [List.map_cons, List.map_nil, sumL_cons, sumL_nil, Nat.cast_succ]
    ring

theorem S2_ks (n : Nat) : S2 (ks n) = ((n : ℝ) - 1) * (n : ℝ) * (2 * (n : ℝ) - 1) / 6 := by
  induction n with
  | zero => simp [ks]
  | succ n ih =>
    simp only [ks] at ih ⊢
    rw [List.range_succ, List.map_append, S2_append, ih]
    simp only [List.map_cons, List.map_nil, S2_cons, S2_nil, Nat.cast_succ]
    ring

/-- the variance term of the time index is positive for n ≥ 2: n·Σk² − (Σk)² = n²(n²−1)/12 -/
theorem ncov_ks_pos (n : Nat) (hn : 2 ≤ n) : 0 < ncov (ks n) (ks n) := by
  rw [ncov_self, ks_length, sum_ks, S2_ks]
  have h2 : (2 : ℝ) ≤ (n : ℝ) := by exact_mod_cast hn
  have e : (n : ℝ) * (((n : ℝ) - 1) * (n : ℝ) * (2 * (n : ℝ) - 1) / 6) - (n : ℝ) * ((n : ℝ) - 1) / 2 * ((n : ℝ) * ((n : ℝ) - 1) / 2)
      = (n : ℝ) * (n : ℝ) * ((n : ℝ) - 1) * ((n : ℝ) + 1) / 12 := by ring
  rw [e]
  have h1 : 0 < (n : ℝ) := by linarith
  exact div_pos (mul_pos (mul_pos (mul_pos h1 h1) (by linarith)) (by linarith)) (by norm_num)

/-- the index against itself: the three centred sums coincide, correlation 1 -/
theorem pearson_ks (n : Nat) (hn : 2 ≤ n) : pearsonIdx (ks n) = 1 := by
  rw [pearson_eq_corr, ks_length, corr_self (ncov_ks_pos n hn)]

theorem cti_affine_window (N : Nat) (hN : 2 ≤ N) (a b : ℝ) (ha : a ≠ 0) (pre : List ℝ) :
    Spec.cti N (pre ++ (ks N).map fun x => a * x + b) = some (if 0 < a then 1 else -1) := by
  have hl : ((ks N).map fun x => a * x + b).length = N := by simp
  have hlast : lastN N (pre ++ (ks N).map fun x => a * x + b) = (ks N).map fun x => a * x + b := by
    rw [lastN_append_of_le N pre _ hl.ge, lastN_of_le N _ hl.le]
  simp only [Spec.cti, List.length_append, hl, hlast]
  rw [if_neg (by omega)]
  rw [pearson_affine a b ha, pearson_ks N hN, mul_one]
  rcases lt_or_gt_of_ne ha with h | h
  · rw [abs_of_neg h, div_neg, div_self ha, if_neg h.not_gt]
  · rw [abs_of_pos h, div_self ha, if_pos h]

end SF.CtiAffine
