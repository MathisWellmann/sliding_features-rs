import SF.Lemmas.Field
import SF.Model.Window
import Mathlib.Order.Bounds.Basic
/- Min / Max: the cached extremum is the extremum of exactly the last N values.  Extrema of lists are Mathlib's
   `IsLeast` / `IsGreatest` of the set of members, so pushing a value is `IsLeast.insert`.  (Extrema under monotone and
   antitone maps: `Invariance.lean`.) -/
namespace SF.MinMax
open Spec
variable {α : Type} [LinearOrder α]

abbrev mem (l : List α) : Set α := {x | x ∈ l}

omit [LinearOrder α] in
theorem mem_cons (x : α) (l : List α) : mem (x :: l) = insert x (mem l) := by ext; simp [mem]
omit [LinearOrder α] in
theorem mem_snoc (l : List α) (x : α) : mem (l ++ [x]) = insert x (mem l) := by ext; simp [mem, or_comm]

/-- the model and the specifications spell `min` and `max` with `if … < …` (Mathlib's `min_def_lt`, `max_def_lt`); the scans
have the arguments in the other order -/
theorem ite_lt_min' (m y : α) : (if y < m then y else m) = min m y := by rw [← min_def_lt, min_comm]

theorem minL_none (l : List α) : minL l = none ↔ l = [] := by
  cases l with
  | nil => simp [minL]
  | cons x r => simp only [minL]; cases minL r <;> simp

/-- `maxL` is `minL` of the dual order: every fact about `maxL` below is the one about `minL` at `αᵒᵈ` -/
theorem maxL_eq_minL_dual (l : List α) : maxL l = minL (α := αᵒᵈ) l := by
  induction l with
  | nil => rfl
  | cons x r ih => simp only [maxL, minL, ih]; rfl

theorem maxL_none (l : List α) : maxL l = none ↔ l = [] := by
  rw [maxL_eq_minL_dual]; exact minL_none (α := αᵒᵈ) l

theorem minL_eq_some {l : List α} {m : α} : minL l = some m ↔ IsLeast (mem l) m := by
  induction l generalizing m with
  | nil => simp [minL, IsLeast, mem]
  | cons x r ih =>
    rw [mem_cons, minL]
    cases h : minL r with
    | none =>
      obtain rfl := (minL_none r).mp h
      exact ⟨by rintro ⟨⟩; simp [IsLeast, lowerBounds], fun hm => by simpa [eq_comm] using hm.1⟩
    | some m' =>
      have h' := (ih.mp h).insert x
      simp only [Option.some_inj, ← min_def_lt, min_comm m' x]
      exact ⟨fun e => e ▸ h', h'.unique⟩

theorem maxL_eq_some {l : List α} {m : α} : maxL l = some m ↔ IsGreatest (mem l) m := by
  rw [maxL_eq_minL_dual]; exact minL_eq_some (α := αᵒᵈ)

theorem exists_minL {l : List α} (h : l ≠ []) : ∃ m, minL l = some m :=
  Option.ne_none_iff_exists'.mp (mt (minL_none l).mp h)
theorem exists_maxL {l : List α} (h : l ≠ []) : ∃ m, maxL l = some m :=
  Option.ne_none_iff_exists'.mp (mt (maxL_none l).mp h)

/-- the two directions with the bounds spelt out -/
theorem minL_least (l : List α) (m : α) (h : minL l = some m) : m ∈ l ∧ ∀ x ∈ l, m ≤ x :=
  ⟨(minL_eq_some.mp h).1, fun _ hx => (minL_eq_some.mp h).2 hx⟩
theorem maxL_greatest (l : List α) (m : α) (h : maxL l = some m) : m ∈ l ∧ ∀ x ∈ l, x ≤ m :=
  ⟨(maxL_eq_some.mp h).1, fun _ hx => (maxL_eq_some.mp h).2 hx⟩
theorem minL_le_maxL {l : List α} {lo hi : α} (hlo : minL l = some lo) (hhi : maxL l = some hi) : lo ≤ hi :=
  (maxL_greatest l hi hhi).2 lo (minL_least l lo hlo).1

/-- the model's left-to-right scans (`listMin`, `listMax`, `extent_queue`, …) keep the smaller / larger value, each with
its own spelling of `min` / `max` -/
theorem foldl_isLeast (g : α → α → α) (hg : ∀ m y, g m y = min m y) (r : List α) (x : α) :
    IsLeast (mem (x :: r)) (r.foldl g x) := by
  induction r using List.reverseRecOn with
  | nil => simp [mem]
  | append_singleton r y ih =>
    rw [List.foldl_append, ← List.cons_append, mem_snoc, List.foldl_cons, List.foldl_nil, hg, min_comm]
    exact ih.insert y
theorem foldl_isGreatest (g : α → α → α) (hg : ∀ m y, g m y = max m y) (r : List α) (x : α) :
    IsGreatest (mem (x :: r)) (r.foldl g x) :=
  foldl_isLeast (α := αᵒᵈ) g hg r x

theorem listMin_eq (l : List α) : listMin l = minL l := by
  cases l with
  | nil => rfl
  | cons x r => exact (minL_eq_some.mpr (foldl_isLeast _ ite_lt_min' r x)).symm
theorem listMax_eq (l : List α) : listMax l = maxL l := by
  cases l with
  | nil => rfl
  | cons x r => exact (maxL_eq_some.mpr (foldl_isGreatest _ (fun m y => by rw [← max_def_lt, max_comm]) r x)).symm

theorem minL_snoc (l : List α) (v : α) : minL (l ++ [v]) = some ((minL l).elim v fun m => if v < m then v else m) := by
  cases h : minL l with
  | none => obtain rfl := (minL_none l).mp h; rfl
  | some m => rw [minL_eq_some, mem_snoc, Option.elim_some, ← min_def_lt]; exact (minL_eq_some.mp h).insert v
theorem maxL_snoc (l : List α) (v : α) : maxL (l ++ [v]) = some ((maxL l).elim v fun m => if m < v then v else m) := by
  rw [maxL_eq_minL_dual, maxL_eq_minL_dual]; exact minL_snoc (α := αᵒᵈ) l v

/-- the same for a cached extremum `lo` that is the new value itself while the deque is empty (Hln, Eft) -/
theorem minL_snoc_getD (w : List α) (v lo : α) (h : (minL w).getD v = lo) :
    minL (w ++ [v]) = some (if v < lo then v else lo) := by
  rw [minL_snoc, ← h]; cases minL w <;> simp
theorem maxL_snoc_getD (w : List α) (v hi : α) (h : (maxL w).getD v = hi) :
    maxL (w ++ [v]) = some (if hi < v then v else hi) := by
  rw [maxL_eq_minL_dual] at h ⊢; exact minL_snoc_getD (α := αᵒᵈ) w v hi h

/-- dropping the oldest element: if it was not the extremum, the extremum survives -/
theorem minL_tail_of_ne {old m : α} {rest : List α} (h : minL (old :: rest) = some m) (hne : old ≠ m) :
    minL rest = some m :=
  have hm := minL_eq_some.mp h
  minL_eq_some.mpr ⟨(List.mem_cons.mp hm.1).resolve_left (Ne.symm hne), fun _ hx => hm.2 (List.mem_cons_of_mem _ hx)⟩
theorem maxL_tail_of_ne {old m : α} {rest : List α} (h : maxL (old :: rest) = some m) (hne : old ≠ m) :
    maxL rest = some m := by
  rw [maxL_eq_minL_dual] at h ⊢; exact minL_tail_of_ne (α := αᵒᵈ) h hne

/-- … and the model rescans exactly when the extremum may have left -/
theorem minL_evict {old m : α} {rest : List α} (h : minL (old :: rest) = some m) :
    (if old = m then listMin rest else some m) = minL rest := by
  split
  · exact listMin_eq rest
  · next hc => exact (minL_tail_of_ne h hc).symm
theorem maxL_evict {old m : α} {rest : List α} (h : maxL (old :: rest) = some m) :
    (if old = m then listMax rest else some m) = maxL rest := by
  split
  · exact listMax_eq rest
  · next hc => exact (maxL_tail_of_ne h hc).symm

def minSt (N : Nat) (xs : List α) : ExtState α := { opt := minL (lastN N xs), q := lastN N xs }
def maxSt (N : Nat) (xs : List α) : ExtState α := { opt := maxL (lastN N xs), q := lastN N xs }

theorem min_tracks (N : Nat) (hN : 0 < N) : (minCoreU (α := α) N).Tracks (minSt N) where
  init := by simp [minSt, minCoreU, minL]
  step xs x := by
    -- `minL_snoc` speaks `Option.elim`, the model `match`: split on the old extremum so that both reduce
    rcases lastN_cases N hN xs with ⟨hlt, hw, hw'⟩ | ⟨old, hle, hw, hlen⟩
    · cases h : minL xs <;>
        simp [minCoreU, minSt, lastN_snoc N hN, minL_snoc, hw, hw', Nat.not_le.mpr hlt, h, apply_ite some, pure_eq_ok, ok_bind]
    · obtain ⟨m, hm⟩ := exists_minL (List.cons_ne_nil old (lastN (N - 1) xs))
      cases h : minL (lastN (N - 1) xs) <;>
        simp [minCoreU, minSt, lastN_snoc N hN, minL_snoc, hw, hlen, hm, minL_evict hm, h, apply_ite some, popFront_cons, unwrap_some, pure_eq_ok, ok_bind]

theorem max_tracks (N : Nat) (hN : 0 < N) : (maxCoreU (α := α) N).Tracks (maxSt N) where
  init := by simp [maxSt, maxCoreU, maxL]
  step xs x := by
    rcases lastN_cases N hN xs with ⟨hlt, hw, hw'⟩ | ⟨old, hle, hw, hlen⟩
    · cases h : maxL xs <;>
        simp [maxCoreU, maxSt, lastN_snoc N hN, maxL_snoc, hw, hw', Nat.not_le.mpr hlt, h, apply_ite some, pure_eq_ok, ok_bind]
    · obtain ⟨m, hm⟩ := exists_maxL (List.cons_ne_nil old (lastN (N - 1) xs))
      cases h : maxL (lastN (N - 1) xs) <;>
        simp [maxCoreU, maxSt, lastN_snoc N hN, maxL_snoc, hw, hlen, hm, maxL_evict hm, h, apply_ite some, popFront_cons, unwrap_some, pure_eq_ok, ok_bind]

end SF.MinMax
