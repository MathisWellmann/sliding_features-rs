import SF.Lemmas.Field
import SF.Model.Window
/- Sma: the incremental state is the batch statistic of exactly the last N values. -/
namespace SF.Sma
open Spec
variable {α : Type} [Field α] [FloatLike α]

def st (N : Nat) (xs : List α) : SmaState α := { q := lastN N xs, sum := sumL (lastN N xs) }

theorem tracks (N : Nat) (hN : 0 < N) : (smaCore (α := α) N).Tracks (st N) where
  init := by simp [st, smaCore]
  step xs x := by
    rcases lastN_cases N hN xs with ⟨hlt, hw, hw'⟩ | ⟨old, hle, hw, hlen⟩
    · simp [smaCore, st, lastN_snoc N hN, hw, hw', Nat.not_le.mpr hlt, pure_eq_ok, ok_bind]
    · -- full window: the oldest value leaves the deque and the sum
      simp [smaCore, st, lastN_snoc N hN, hw, hlen, popFront_cons, pure_eq_ok, ok_bind]

variable [ExactScalar α]

theorem out_st (N : Nat) (xs : List α) : (smaCore N).out (st N xs) = .ok (Spec.sma N xs) := by
  by_cases hlt : xs.length < N
  · simp [smaCore, st, Spec.sma, lastN_length, hlt, pure_eq_ok]
  · simp [smaCore, st, Spec.sma, lastN_length, hlt, Nat.le_of_not_lt hlt, pure_eq_ok, ok_bind]

theorem outAfter_eq (N : Nat) (hN : 0 < N) (xs : List α) :
    (smaCore (α := α) N).outAfter xs = .ok (Spec.sma N xs) := by
  rw [(tracks N hN).outAfter, out_st]

end SF.Sma
