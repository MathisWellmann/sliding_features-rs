import SF.Lemmas.MinMax
import SF.Lemmas.Realises
import SF.Model.Ehlers
/-
  EhlersFisherTransform: the cached high / low are the extrema of exactly the last N values (the rescan-on-eviction logic
  with its "emptied window" default), and the output deque's newest entry follows the Fisher recursion of the spec, for
  ANY smoothing view `ma` that itself realises a batch function `maS` of what it was fed.
-/
namespace SF.Eft
open Spec MinMax

section
variable {α : Type} [Field α] [LinearOrder α] [Transc α]

/-- what the spec does with a new value once the window extrema are known: (new output, values fed to ma) -/
def fishEmit (ma : List α → Option α) (prev : Option α) (fed : List α) (hi lo x : α) : Option α × List α :=
  if hi == lo then (some (nat 0), fed)
  else
    let v := nat 2 * ((x - lo) / (hi - lo) - dec 5 10)
    let fed' := fed ++ [v]
    match ma fed' with
    | none => (prev, fed')
    | some sm =>
      let s := if sm < -(dec 99 100) then -(dec 99 100) else if dec 99 100 < sm then dec 99 100 else sm
      match prev with
      | none => (some (nat 0), fed')
      | some p => (some (dec 5 10 * Transc.ln ((nat 1 + s) / (nat 1 - s)) + dec 5 10 * p), fed')

def fishStep (N : Nat) (ma : List α → Option α) (acc : List α × Option α × List α) (x : α) : List α × Option α × List α :=
  let hist := acc.1 ++ [x]
  match minL (lastN N hist), maxL (lastN N hist) with
  | some lo, some hi => (hist, (fishEmit ma acc.2.1 acc.2.2 hi lo x).1, (fishEmit ma acc.2.1 acc.2.2 hi lo x).2)
  | _, _ => (hist, acc.2.1, acc.2.2)

def fishFold (N : Nat) (ma : List α → Option α) (xs : List α) : List α × Option α × List α :=
  xs.foldl (fishStep N ma) ([], none, [])

/-- `fishStep` is the spec's fold step with the output part named `fishEmit`: the proof only commutes the `match`es with
the projections of the pair `fishEmit` returns, case by case -/
theorem fisher_eq_fold (N : Nat) (ma : List α → Option α) (xs : List α) :
    Spec.fisher N ma xs = (fishFold N ma xs).2.1 := by
  simp only [Spec.fisher, fishFold]
  congr 3
  funext acc x
  simp only [fishStep, fishEmit]
  cases minL (lastN N (acc.1 ++ [x])) with
  | none => rfl
  | some lo =>
    cases maxL (lastN N (acc.1 ++ [x])) with
    | none => rfl
    | some hi =>
      dsimp only
      by_cases hb : (hi == lo) = true
      · simp only [hb, if_true]
      · simp only [hb]
        cases ma (acc.2.2 ++ [nat 2 * ((x - lo) / (hi - lo) - dec 5 10)]) with
        | none => rfl
        | some sm =>
          dsimp only
          cases acc.2.1 with
          | none => rfl
          | some prev => rfl

theorem fishFold_snoc (N : Nat) (ma : List α → Option α) (xs : List α) (x : α) :
    fishFold N ma (xs ++ [x]) = fishStep N ma (fishFold N ma xs) x := by
  simp only [fishFold, List.foldl_append, List.foldl_cons, List.foldl_nil]

theorem fishFold_hist (N : Nat) (ma : List α → Option α) (xs : List α) : (fishFold N ma xs).1 = xs := by
  induction xs using List.reverseRecOn with
  | nil => rfl
  | append_singleton xs x ih =>
    rw [fishFold_snoc]
    simp only [fishStep, ih]
    split <;> rfl

end

section
variable {α : Type} [LinearOrder α]

theorem listMaxD_eq (q : List α) (d : α) : listMaxD q d = (maxL q).getD d := by
  rw [← listMax_eq]; cases q <;> rfl
theorem listMinD_eq (q : List α) (d : α) : listMinD q d = (minL q).getD d := by
  rw [← listMin_eq]; cases q <;> rfl

/-- push and widen, on a deque whose extrema are `hi` / `lo` (the new value itself when the deque is empty) -/
theorem widen_ok (w : List α) (hi lo v : α) (hh : (maxL w).getD v = hi) (hl : (minL w).getD v = lo) :
    maxL (w ++ [v]) = some (if hi < v then (v, lo) else if v < lo then (hi, v) else (hi, lo)).1 ∧
    minL (w ++ [v]) = some (if hi < v then (v, lo) else if v < lo then (hi, v) else (hi, lo)).2 := by
  have hlh : lo ≤ hi := by
    rcases eq_or_ne w [] with rfl | hw
    · exact (hl.symm.trans hh).le
    · obtain ⟨m, hm⟩ := exists_minL hw
      obtain ⟨M, hM⟩ := exists_maxL hw
      rw [hm] at hl; rw [hM] at hh
      exact hl ▸ hh ▸ minL_le_maxL hm hM
  have e : (if hi < v then (v, lo) else if v < lo then (hi, v) else (hi, lo))
      = (if hi < v then v else hi, if v < lo then v else lo) := by
    split
    · next h => rw [if_neg (not_lt.mpr (hlh.trans h.le))]
    · split <;> rfl
  rw [e]
  exact ⟨maxL_snoc_getD w v hi hh, minL_snoc_getD w v lo hl⟩

/-- after the window part the deque is exactly the last N values and high / low are its extrema -/
theorem window_ok (N : Nat) (hN : 0 < N) (q : List α) (hi lo v : α) (xs : List α) (hq : q = lastN N xs)
    (hne : xs ≠ [] → maxL q = some hi ∧ minL q = some lo) :
    ∃ hi' lo', eftWindow N q hi lo v = .ok (lastN N (xs ++ [v]), hi', lo') ∧
      maxL (lastN N (xs ++ [v])) = some hi' ∧ minL (lastN N (xs ++ [v])) = some lo' := by
  subst hq
  rw [lastN_snoc N hN]
  -- whatever the eviction does, it leaves the shorter window with its extrema: `widen_ok` does the rest
  rcases eq_or_ne xs [] with rfl | hx
  · have hnf : ¬ N ≤ 0 := by omega
    simp only [eftWindow, lastN_nil, List.isEmpty_nil, if_true, List.length_nil, hnf, if_false, ok_bind, pure_eq_ok]
    exact ⟨_, _, rfl, widen_ok [] v v v rfl rfl⟩
  obtain ⟨hh, hl⟩ := hne hx
  have hemp : (lastN N xs).isEmpty = false := by simpa using (lastN_ne_nil hN).mpr (List.length_pos_of_ne_nil hx)
  rcases lastN_cases N hN xs with ⟨hlt, hw, hw'⟩ | ⟨old, hle, hw, hlen⟩
  · rw [hw] at hh hl hemp
    simp only [eftWindow, hw, hw', hemp, Bool.false_eq_true, if_false, Nat.not_le.mpr hlt, ok_bind, pure_eq_ok]
    exact ⟨_, _, rfl, widen_ok xs hi lo v (by rw [hh]; rfl) (by rw [hl]; rfl)⟩
  · rw [hw] at hh hl
    have hH : (maxL (lastN (N - 1) xs)).getD v = if hi ≤ old then listMaxD (lastN (N - 1) xs) v else hi := by
      split
      · exact (listMaxD_eq _ v).symm
      · next hc => rw [maxL_tail_of_ne hh (not_le.mp hc).ne]; rfl
    have hL : (minL (lastN (N - 1) xs)).getD v = if old ≤ lo then listMinD (lastN (N - 1) xs) v else lo := by
      split
      · exact (listMinD_eq _ v).symm
      · next hc => rw [minL_tail_of_ne hl (not_le.mp hc).ne']; rfl
    have hfull : N ≤ (old :: lastN (N - 1) xs).length := by simp [hlen]
    simp only [eftWindow, hw, List.isEmpty_cons, Bool.false_eq_true, if_false, hfull, if_true, popFront_cons, ok_bind, pure_eq_ok]
    exact ⟨_, _, rfl, widen_ok _ _ _ v hH hL⟩

end

section
variable {α : Type} [Field α] [LinearOrder α] [FloatLike α] [ExactScalar α] [Transc α]

theorem emit_ok (ma : View α) (maS : List α → Option α) (hma : Realises ma maS) (m : ma.σ) (fed : List α)
    (hm : ma.run ma.init fed = .ok m) (qOut : List α) (hi lo v : α) :
    ∃ m' qOut', eftEmit ma m qOut hi lo v = .ok (m', qOut') ∧
      ma.run ma.init (fishEmit maS qOut.getLast? fed hi lo v).2 = .ok m' ∧
      qOut'.getLast? = (fishEmit maS qOut.getLast? fed hi lo v).1 ∧ qOut'.length ≤ qOut.length + 1 := by
  unfold eftEmit fishEmit
  by_cases heq : hi = lo
  · simp only [beq_iff_eq, heq, if_true, pure_eq_ok]
    exact ⟨m, qOut ++ [nat 0], rfl, hm, by simp, by simp⟩
  · obtain ⟨m', hu, hr, hl⟩ := realises_upd ma maS hma fed m hm (nat 2 * ((v - lo) / (hi - lo) - dec 5 10))
    simp only [beq_iff_eq, heq, if_false, hu, ok_bind, hl]
    cases hs : maS (fed ++ [nat 2 * ((v - lo) / (hi - lo) - dec 5 10)]) with
    | none => exact ⟨m', qOut, rfl, hr, rfl, by omega⟩
    | some sm =>
      rcases List.eq_nil_or_concat qOut with rfl | ⟨r, p, rfl⟩
      · -- the first smoothed value: the output starts at 0
        exact ⟨m', [] ++ [nat 0], rfl, hr, by simp, by simp⟩
      · have hne : (r ++ [p]).isEmpty = false := by simp
        simp only [List.concat_eq_append, hne, Bool.false_eq_true, if_false, back_snoc, ok_bind, assertFinite_exact, pure_eq_ok,
          List.getLast?_concat, clampv]
        exact ⟨m', _, rfl, hr, by simp, by simp⟩

structure Inv (N : Nat) (ma : View α) (maS : List α → Option α) (s : EftState α ma.σ) (xs : List α) : Prop where
  hq : s.q = lastN N xs
  hne : xs ≠ [] → maxL s.q = some s.high ∧ minL s.q = some s.low
  hma : ma.run ma.init (fishFold N maS xs).2.2 = .ok s.ma
  hout : s.qOut.getLast? = (fishFold N maS xs).2.1
  hlen : s.qOut.length ≤ 2   -- the update trims `qOut` to one entry, then pushes at most one

theorem step_ok (N : Nat) (hN : 0 < N) (ma : View α) (maS : List α → Option α) (hR : Realises ma maS)
    (s : EftState α ma.σ) (xs : List α) (x : α) (h : Inv N ma maS s xs) :
    ∃ s', (eftCore N ma).step s x = .ok s' ∧ Inv N ma maS s' (xs ++ [x]) := by
  obtain ⟨hq, hne, hma, hout, hlen⟩ := h
  obtain ⟨hi', lo', hw, hH, hL⟩ := window_ok N hN s.q s.high s.low x xs hq hne
  set qOut := (if 1 < s.qOut.length then s.qOut.tail else s.qOut) with hqOut
  have hqo : qOut.getLast? = (fishFold N maS xs).2.1 := by
    rw [hqOut, ← hout]; split
    · next h1 => rw [List.getLast?_tail, if_neg (by omega)]
    · rfl
  have hqol : qOut.length ≤ 1 := by
    rw [hqOut]; split
    · simp; omega
    · omega
  obtain ⟨m', qOut', he, hr, hl, hle⟩ := emit_ok ma maS hR s.ma (fishFold N maS xs).2.2 hma qOut hi' lo' x
  refine ⟨{ q := lastN N (xs ++ [x]), ma := m', high := hi', low := lo', qOut := qOut' }, ?_, ?_⟩
  · simp only [eftCore, hw, ok_bind, ← hqOut, he, pure_eq_ok]
  · have hfs : fishFold N maS (xs ++ [x]) =
        (xs ++ [x], (fishEmit maS (fishFold N maS xs).2.1 (fishFold N maS xs).2.2 hi' lo' x).1,
          (fishEmit maS (fishFold N maS xs).2.1 (fishFold N maS xs).2.2 hi' lo' x).2) := by
      rw [fishFold_snoc]
      simp only [fishStep, fishFold_hist, hL, hH]
    refine ⟨rfl, fun _ => ⟨hH, hL⟩, ?_, ?_, by dsimp only; omega⟩
    · rw [hfs]; dsimp only; rw [← hqo]; exact hr
    · rw [hfs]; dsimp only; rw [← hqo]; exact hl

omit [ExactScalar α] in
theorem init_inv (N : Nat) (ma : View α) (maS : List α → Option α) : Inv N ma maS (eftCore N ma).init [] :=
  ⟨by simp [eftCore], fun h => absurd rfl h, by simp [eftCore, fishFold, View.run, pure_eq_ok],
    by simp [eftCore, fishFold], by simp [eftCore]⟩

theorem run_ok (N : Nat) (hN : 0 < N) (ma : View α) (maS : List α → Option α) (hR : Realises ma maS) (xs : List α) :
    ∃ s, (eftCore N ma).run (eftCore N ma).init xs = .ok s ∧ Inv N ma maS s xs :=
  Core.run_invariant_init (eftCore N ma) (Inv N ma maS) (init_inv N ma maS)
    (fun s pre x h => step_ok N hN ma maS hR s pre x h) xs
end

section
variable {α : Type} [Field α] [LinearOrder α] [IsStrictOrderedRing α] [FloatLike α] [ExactScalar α] [Transc α]
set_option linter.unusedSectionVars false in
/-- the buffers hold at most N + 2 scalars plus what the smoothing view holds -/
theorem size_le (N : Nat) (hN : 0 < N) (ma : View α) (maS : List α → Option α) (hR : Realises ma maS) (xs : List α)
    (s : EftState α ma.σ) (h : (eftCore N ma).run (eftCore N ma).init xs = .ok s) :
    s.q.length + s.qOut.length ≤ N + 2 :=
  have hi := Core.inv_of_run (run_ok N hN ma maS hR) h
  Nat.add_le_add (length_le_of_eq_lastN hi.hq) hi.hlen
end

end SF.Eft
