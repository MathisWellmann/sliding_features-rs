import SF.Lemmas.SuperSmoother
/- RoofingFilter: two-pole high-pass over the whole history, then SuperSmoother over hp(N+1), hp(N+2), … -/
namespace SF.Roof
open SF.Spec
variable {α : Type} [Field α] [Transc α]

/-- the spec's fold state: (hp values newest first, x(t−1), x(t−2)) -/
def hpFold (N : Nat) (xs : List α) : List α × α × α :=
  let th : α := dec 44422 10000 / nat N
  let al := (Transc.cos th + Transc.sin th - nat 1) / Transc.cos th
  xs.foldl (fun (acc : List α × α × α) (x : α) =>
    let h1 := acc.1.headD (nat 0)
    let h2 := acc.1.tail.headD (nat 0)
    let x1 := acc.2.1
    let x2 := acc.2.2
    let h := sq (nat 1 - al / nat 2) * (x - nat 2 * x1 + x2) + nat 2 * (nat 1 - al) * h1 - sq (nat 1 - al) * h2
    (h :: acc.1, x, x1)) ([], nat 0, nat 0)

theorem hpSeq_eq (N : Nat) (xs : List α) : hpSeq N xs = (hpFold N xs).1 := rfl

/-- the high-pass value appended when x arrives (numerals as `nat k`, as in the spec: `simp only [nat_eq, Nat.cast_ofNat, …]`) -/
def hpNext (N : Nat) (st : List α × α × α) (x : α) : α :=
  let a1 : α := roofAlpha N
  sq (nat 1 - a1 / nat 2) * (x - nat 2 * st.2.1 + st.2.2) + nat 2 * (nat 1 - a1) * st.1.headD (nat 0)
    - sq (nat 1 - a1) * st.1.tail.headD (nat 0)

/-- the spec's fold, its step written with `hpNext`: the spec's local `al` is the model's `roofAlpha N` once both are unfolded -/
theorem hpFold_eq_foldl (N : Nat) (xs : List α) :
    hpFold N xs = xs.foldl (fun s x => (hpNext N s x :: s.1, x, s.2.1)) ([], nat 0, nat 0) := rfl

theorem hpFold_snoc (N : Nat) (xs : List α) (x : α) :
    hpFold N (xs ++ [x]) = (hpNext N (hpFold N xs) x :: (hpFold N xs).1, x, (hpFold N xs).2.1) := by
  simp only [hpFold_eq_foldl, List.foldl_append, List.foldl_cons, List.foldl_nil]

theorem hpFold_length (N : Nat) (xs : List α) : (hpFold N xs).1.length = xs.length := by
  induction xs using List.reverseRecOn with
  | nil => simp [hpFold]
  | append_singleton xs x ih => rw [hpFold_snoc]; simp [ih]

/-- the values handed to the embedded SuperSmoother so far (oldest first) -/
def fed (N : Nat) (xs : List α) : List α := (hpFold N xs).1.reverse.drop (N + 1)

theorem fed_snoc (N : Nat) (xs : List α) (x : α) :
    fed N (xs ++ [x]) = if N < xs.length then fed N xs ++ [hpNext N (hpFold N xs) x] else [] := by
  simp only [fed, hpFold_snoc, List.reverse_cons]
  have hl := hpFold_length N xs
  by_cases h : N < xs.length
  · rw [if_pos h, List.drop_append_of_le_length (by simp [hl]; omega)]
  · rw [if_neg h]
    apply List.drop_eq_nil_of_le
    simp [hl]; omega

theorem fed_nil_of_le (N : Nat) (xs : List α) (h : xs.length ≤ N + 1) : fed N xs = [] :=
  List.drop_eq_nil_of_le (by rwa [List.length_reverse, hpFold_length])

/-- once it has been fed at all, the embedded SuperSmoother was last fed the newest high-pass value -/
theorem fed_prev (N : Nat) (c : Coef α) (pad : α) (xs : List α) (h : N + 1 < xs.length) :
    (SS.foldState c pad (fed N xs)).2 = (hpFold N xs).1.headD pad := by
  rw [SS.prev_input, fed, List.getLast?_drop, if_neg (by simp [hpFold_length]; omega), List.getLast?_reverse]
  cases (hpFold N xs).1 <;> rfl

/-- the state after the history `xs`: the registers are the newest high-pass values and inputs, the embedded smoother has
seen `fed N xs` -/
def st (N M' : Nat) (xs : List α) : RoofState α :=
  { ss := SS.st M' (fed N xs), i := xs.length, val1 := (hpFold N xs).2.1, val2 := (hpFold N xs).2.2,
    hp1 := (hpFold N xs).1.headD (nat 0), hp2 := (hpFold N xs).1.tail.headD (nat 0) }

variable [FloatLike α] [ExactScalar α]

theorem tracks (N M' : Nat) : (roofCoreU (α := α) N M').Tracks (st N M') where
  init := rfl
  step xs x := by
    -- quantified over `s` so that `simp only` can rewrite the step's hp expression before `st` is unfolded
    have hhp : ∀ s : RoofState α, s = st N M' xs →
        sq (nat 1 - roofAlpha (α := α) N / nat 2) * (x - nat 2 * s.val1 + s.val2) + nat 2 * (nat 1 - roofAlpha N) * s.hp1
          - sq (nat 1 - roofAlpha N) * s.hp2 = hpNext N (hpFold N xs) x := fun s hs => by subst hs; rfl
    simp only [roofCoreU, hhp _ rfl, assertFinite_exact, ok_bind, pure_eq_ok]
    simp only [st, hpFold_snoc, fed_snoc, List.length_append, List.length_singleton, List.headD_cons, List.tail_cons]
    by_cases hN : N < xs.length
    · simp only [hN, if_true, SS.step_st]
    · simp only [hN, if_false, fed_nil_of_le N xs (by omega)]

/-- what is reported is what the embedded SuperSmoother reports on `fed N xs`: by definition `Spec.roofing` -/
theorem out_st (N M' : Nat) (hM : 0 < M') (xs : List α) :
    (roofCoreU N M').out (st N M' xs) = .ok (Spec.roofing N M' xs) := by
  show (ssOut M' (SS.st M' (fed N xs)) >>= _) = _
  rw [SS.out_st M' hM, ok_bind]
  show _ = Except.ok (Spec.superSmoother M' (fed N xs))
  cases Spec.superSmoother M' (fed N xs) <;> simp only [assertFinite_exact, ok_bind, pure_eq_ok]

end SF.Roof
