import SF.Lemmas.SpecFacts
import SF.Lemmas.Moments
import SF.Lemmas.AffineMoments
import SF.Lemmas.Eft
import SF.Lemmas.Bent
/- The inequalities behind C07's ranges, about lists and variables: Kendall's numerator (NET), n·Σz² ≥ (Σz)² and from it
   Cauchy–Schwarz for the centred sums (CTI) and Samuelson's inequality (Vsct), the binary entropy term, one step of the
   Fisher recursion. -/
namespace SF.Bounds
open SF.Spec SF.Moments

section
variable {α : Type} [Field α] [LinearOrder α] [IsStrictOrderedRing α]

/-- each of the n(n−1)/2 pairs contributes −1, 0 or 1 -/
theorem kendallNum_bound (w : List α) : |2 * kendallNum w| ≤ (w.length : α) * ((w.length : α) - 1) := by
  induction w with
  | nil => simp [kendallNum, nat_eq]
  | cons x r ih =>
    obtain ⟨h1, h2⟩ := abs_le.1 (abs_sumL_map_le (fun y => sgn0 (y - x)) 1 r fun y _ => abs_sgn0_le _)
    obtain ⟨i1, i2⟩ := abs_le.1 ih
    simp only [kendallNum, List.length_cons, Nat.cast_succ]
    exact abs_le.2 ⟨by linarith, by linarith⟩

/-- n·Σz² ≥ (Σz)²: the squared deviations from the mean are non-negative -/
theorem nvar_nonneg (z : List α) : sumL z * sumL z ≤ (z.length : α) * S2 z := by
  by_cases hz : z = []
  · subst hz; simp
  · have hn : (0 : α) < z.length := by exact_mod_cast List.length_pos_of_ne_nil hz
    have h0 := sumL_map_nonneg (fun x => sq (x - mean z)) z (fun x _ => mul_self_nonneg _)
    rw [sum_sq_dev_mean z hz, sub_nonneg, div_le_iff₀ hn] at h0
    linarith

/-- Cauchy–Schwarz for the centred sums: (nΣxy − ΣxΣy)² ≤ (nΣx² − (Σx)²)(nΣy² − (Σy)²); the quadratic
t ↦ n·Σ(t·x − y)² − (Σ(t·x − y))² = A·t² − 2·C·t + B is non-negative, so its discriminant 4·C² − 4·A·B is not positive -/
theorem cov_sq_le (x y : List α) (h : x.length = y.length) : ncov x y * ncov x y ≤ ncov x x * ncov y y := by
  have hq : ∀ t : α, 0 ≤ ncov x x * (t * t) + -(2 * ncov x y) * t + ncov y y := by
    intro t
    have := nvar_nonneg (List.zipWith (fun u v => t * u + -1 * v) x y)
    rw [sumL_zipWith_lin t (-1) x y h, S2_zipWith_lin t (-1) x y h, List.length_zipWith, ← h, min_self] at this
    rw [ncov_self, ncov_self, ncov, ← h]
    linarith
  have := discrim_le_zero hq
  rw [discrim] at this
  linarith

theorem sumL_dev_mean (w : List α) (hw : w ≠ []) : sumL (w.map fun y => y - mean w) = 0 := by
  have hn : (w.length : α) ≠ 0 := by exact_mod_cast (List.length_pos_of_ne_nil hw).ne'
  have h := sumL_map_affine 1 (-mean w) w
  simp only [one_mul, ← sub_eq_add_neg] at h
  rw [h, mean, nat_eq, neg_mul, div_mul_cancel₀ _ hn, add_neg_cancel]

/-- `d` is one deviation from the mean, `e` the list of the others -/
theorem samuelson_core (e : List α) (d : α) (h : sumL e + d = 0) :
    ((e.length : α) + 1) * (d * d) ≤ (e.length : α) * (S2 e + d * d) := by
  have hv := nvar_nonneg e
  rw [eq_neg_of_add_eq_zero_left h] at hv
  linarith

/-- Samuelson's inequality n·(x − m)² ≤ (n − 1)·Σ(x_i − m)² for any member `x` of a list with mean `m` -/
theorem samuelson (l r : List α) (x : α) :
    let w := l ++ x :: r
    (w.length : α) * ((x - mean w) * (x - mean w)) ≤ ((w.length : α) - 1) * sumL (w.map fun y => sq (y - mean w)) := by
  intro w
  have h0 := sumL_dev_mean w (by simp [w])
  have hc := samuelson_core ((l ++ r).map fun y => y - mean w) (x - mean w)
    (by simp only [w, List.map_append, List.map_cons, sumL_append, sumL_cons] at h0 ⊢; linarith)
  simp only [w, S2, List.map_map, List.length_map, List.map_append, List.map_cons, List.length_append, List.length_cons,
    sumL_append, sumL_cons, sq_eq, Function.comp_def] at hc ⊢
  push_cast at hc ⊢
  linarith

/-- (n−1)²/n is non-decreasing in n ≥ 1: (N−1)²·n − (n−1)²·N = (N−n)(n·N−1) -/
theorem sq_pred_div_mono {n N : α} (hn : 1 ≤ n) (hnN : n ≤ N) :
    (n - 1) * (n - 1) / n ≤ (N - 1) * (N - 1) / N := by
  rw [div_le_div_iff₀ (by linarith) (by linarith)]
  have h1 : 1 ≤ n * N := one_le_mul_of_one_le_of_one_le hn (hn.trans hnN)
  have := mul_nonneg (sub_nonneg.2 hnN) (sub_nonneg.2 h1)
  linarith

theorem zscore_sq_le {n d S sd : α} (hn : 1 < n) (hS : n * (d * d) ≤ (n - 1) * S) (hsd : sd * sd = S / (n - 1))
    (h0 : sd ≠ 0) : d / sd * (d / sd) ≤ (n - 1) * (n - 1) / n := by
  have hn1 : n - 1 ≠ 0 := by linarith
  rw [div_mul_div_comm, div_le_div_iff₀ (mul_self_pos.2 h0) (by linarith), hsd,
    show (n - 1) * (n - 1) * (S / (n - 1)) = (n - 1) * S by field_simp]
  linarith
end

/-- Vsct² ≤ (N−1)²/N, for every history, at ℝ: either 0, or the z-score of the newest value in a window of n ≤ N values -/
theorem vsct_sq_bound (N : Nat) (hN : 0 < N) (xs : List ℝ) (v : ℝ) (h : Spec.vsct N xs = some v) :
    v * v ≤ ((N : ℝ) - 1) * ((N : ℝ) - 1) / N := by
  have hzero : (nat 0 : ℝ) * nat 0 ≤ ((N : ℝ) - 1) * ((N : ℝ) - 1) / N := by
    rw [nat_eq, Nat.cast_zero, mul_zero]
    exact div_nonneg (mul_self_nonneg _) (Nat.cast_nonneg N)
  simp only [Spec.vsct, Spec.welfordMean] at h
  split at h
  · -- arm `some sd, some x`: the window has a std and a newest value
    rename_i sd x hw hg
    simp only [Option.some.injEq] at h
    split at h
    · subst h; exact hzero
    · rename_i hsd0
      subst h
      have hsd0 : sd ≠ 0 := by simpa using hsd0
      obtain ⟨pre, r, hpre⟩ := List.append_of_mem (mem_lastN_of_getLast N hN xs x hg)
      simp only [Spec.welford, Option.ite_none_left_eq_some, Option.some.injEq] at hw
      obtain ⟨_, hw⟩ := hw
      set w := lastN N xs
      have hvar : ¬ sampleVar w ≤ 0 := fun hle => hsd0 (by simp [← hw, stdOf, hle])
      have hsd2 : sd * sd = sampleVar w := by
        simp only [← hw, stdOf, nat_eq, Nat.cast_zero, hvar, if_false, transc_sqrt_real]
        exact Real.mul_self_sqrt (not_le.mp hvar).le
      have hlen : ¬ w.length ≤ 1 := fun hle => hvar (by simp [sampleVar, hle])
      have hn : (1 : ℝ) < w.length := by exact_mod_cast not_le.mp hlen
      have hsam := samuelson pre r x
      simp only [← hpre] at hsam
      refine (zscore_sq_le hn hsam ?_ hsd0).trans
        (sq_pred_div_mono hn.le (by exact_mod_cast lastN_length_le N xs))
      rw [hsd2, sampleVar, if_neg hlen, nat_eq, Nat.cast_sub (not_le.mp hlen).le, Nat.cast_one]
  · cases h; exact hzero
  · cases h

theorem entropy_term (p : ℝ) : (if p == nat 0 then (nat 0 : ℝ) else p * Transc.log2 p) = p * Real.log p / Real.log 2 := by
  rw [Bent.guard_eq, transc_log2_real, Real.logb]
  ring

theorem fisher_term_bound (s : ℝ) (h1 : -(99/100 : ℝ) ≤ s) (h2 : s ≤ 99/100) :
    |Real.log ((1 + s) / (1 - s))| ≤ Real.log 199 := by
  have hd : 0 < 1 - s := by linarith
  have hn : 0 < 1 + s := by linarith
  have hq : 0 < (1 + s) / (1 - s) := div_pos hn hd
  rw [abs_le]
  constructor
  · rw [← Real.log_inv]
    apply Real.log_le_log (by norm_num)
    rw [le_div_iff₀ hd]; linarith
  · apply Real.log_le_log hq
    rw [div_le_iff₀ hd]; linarith

theorem clamp_range (c sm : ℝ) (hc : 0 ≤ c) :
    -c ≤ (if sm < -c then -c else if c < sm then c else sm) ∧ (if sm < -c then -c else if c < sm then c else sm) ≤ c := by
  split
  · constructor <;> linarith
  · split
    · constructor <;> linarith
    · constructor <;> linarith

/-- one step keeps |output| ≤ ln 199: it is ½·ln((1+s)/(1−s)) + ½·prev with |s| ≤ 0.99, or 0, or the previous output -/
theorem fishEmit_bound (ma : List ℝ → Option ℝ) (prev : Option ℝ) (fed : List ℝ) (hi lo x : ℝ)
    (hp : ∀ p, prev = some p → |p| ≤ Real.log 199) (q : ℝ) (hq : (Eft.fishEmit ma prev fed hi lo x).1 = some q) :
    |q| ≤ Real.log 199 := by
  have hpos : |(nat 0 : ℝ)| ≤ Real.log 199 := by
    rw [nat_eq, Nat.cast_zero, abs_zero]
    exact Real.log_nonneg (by norm_num)
  have h99 : (dec 99 100 : ℝ) = 99 / 100 := by rw [dec_eq]; norm_num
  have h5 : (dec 5 10 : ℝ) = 1 / 2 := by rw [dec_eq]; norm_num
  have hmean : ∀ u v L : ℝ, |u| ≤ L → |v| ≤ L → |1 / 2 * u + 1 / 2 * v| ≤ L := by
    intro u v L hu hv
    rw [abs_le] at hu hv ⊢
    constructor <;> linarith
  unfold Eft.fishEmit at hq
  split at hq
  · cases hq; exact hpos
  · simp only at hq
    split at hq
    · exact hp q hq
    · rename_i sm _
      split at hq
      · cases hq; exact hpos
      · rename_i p
        cases hq
        obtain ⟨c1, c2⟩ := clamp_range (dec 99 100) sm (by rw [h99]; norm_num)
        rw [h99] at c1 c2
        simp only [h5, h99, nat_eq, transc_ln_real, Nat.cast_one]
        exact hmean _ _ _ (fisher_term_bound _ c1 c2) (hp p rfl)

/-- CorrelationTrendIndicator ∈ [−1, 1] (ℝ): Cauchy–Schwarz for the centred sums; a fact about the Pearson formula of any
list, so it holds for the zero-padded warm-up windows too -/
theorem abs_pearson_le (w : List ℝ) : |pearsonIdx w| ≤ 1 := by
  rw [Inv2.pearson_eq_corr]
  exact Inv2.corr_abs_le _ _ _ (cov_sq_le w (CtiAffine.ks w.length) (CtiAffine.ks_length _).symm)

theorem cti_range (N : Nat) (xs : List ℝ) (v : ℝ) (h : Spec.cti N xs = some v) : -1 ≤ v ∧ v ≤ 1 := by
  simp only [Spec.cti, Option.ite_none_left_eq_some, Option.some.injEq] at h
  rw [← h.2]
  exact abs_le.1 (abs_pearson_le _)

end SF.Bounds
