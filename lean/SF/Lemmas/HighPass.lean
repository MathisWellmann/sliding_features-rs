import SF.Lemmas.DoublePole
import SF.Lemmas.CyberCycle
import SF.Lemmas.Roof
import SF.Lemmas.Real
import SF.Lemmas.SpecFacts
import Mathlib.Analysis.Real.Pi.Bounds
/-
  The two high-pass members with a double real pole (`DoublePole`): CyberCycle, p = 1 − 2/(N+1), over any ordered field, and
  the high-pass of the RoofingFilter, p = 1 − α with α = (cos θ + sin θ − 1)/cos θ, θ = 4.4422/N, at ℝ.  Bounded input gives
  bounded output with a length-independent bound; for the Roofing pole this needs |1 − α| < 1 for every N ≥ 2.
  For CyberCycle also the output at time n (`cAt`) with its recursion, from which C09 and C10 derive the fading memory and the
  response to a constant input.
-/
namespace SF.DcGain
/-- the angle 4.4422/N (the crate's literal for 1.414·π/N) of the SuperSmoother's pole and of the Roofing high-pass's α.
(Defined in this file because `roofPole` below is the first to need it.) -/
noncomputable def ssTheta (M : Nat) : ℝ := 44422 / 10000 / M
end SF.DcGain

namespace SF.DoublePole
open SF.Spec DcGain

/-! ### CyberCycle: the output at time n and its recursion -/
section cAt
variable {α : Type} [Field α]

/-- the output at time n: what the spec reports after the first n + 1 values (`cAt_spec`) -/
def cAt (N : Nat) (xs : List α) (n : Nat) : α := (CC.C N xs (n + 1)).headD 0

theorem C_tail_head (N : Nat) (xs : List α) (n : Nat) : (CC.C N xs (n + 2)).tail.headD 0 = cAt N xs n := by
  obtain ⟨v, hv⟩ := CC.C_succ_cons N xs (n + 1)
  rw [hv]; rfl

theorem cAt_spec (N : Nat) (xs : List α) (n : Nat) (hn : n < xs.length) :
    Spec.cyberCycle N (xs.take (n + 1)) = some (cAt N xs n) := by
  have hl : (xs.take (n + 1)).length = n + 1 := by rw [List.length_take]; omega
  have hC : CC.C N (xs.take (n + 1)) (n + 1) = CC.C N xs (n + 1) := by
    conv_rhs => rw [← List.take_append_drop (n + 1) xs]
    exact (CC.C_prefix N _ _ _ hl.ge).symm
  obtain ⟨v, hv⟩ := CC.C_succ_cons N xs n
  rw [CC.cyberCycle_unfold, hl, hC, cAt, hv]
  rfl

/-- past the start-up the outputs obey the recursion -/
theorem cAt_rec (N : Nat) (xs : List α) (n : Nat) (hn : N ≤ n + 3) :
    cAt N xs (n + 2) =
      (1 - 5 / 10 * (2 / ((N : α) + 1))) * (1 - 5 / 10 * (2 / ((N : α) + 1))) *
          (CC.smS xs ((n + 2 : Nat) : Int) - 2 * CC.smS xs (((n + 2 : Nat) : Int) - 1) + CC.smS xs (((n + 2 : Nat) : Int) - 2))
        + 2 * (1 - 2 / ((N : α) + 1)) * cAt N xs (n + 1)
        - (1 - 2 / ((N : α) + 1)) * (1 - 2 / ((N : α) + 1)) * cAt N xs n := by
  unfold cAt
  rw [CC.C_succ N xs (n + 2)]
  unfold CC.stepC
  rw [if_neg (by omega)]
  have h2 := C_tail_head N xs n
  unfold cAt at h2
  simp only [List.headD_cons, nat_eq, dec_eq, sq_eq, Nat.cast_ofNat, Nat.cast_one, Nat.cast_zero, h2]

end cAt

/-! ### CyberCycle: |c(t)| ≤ (N+1)²·B for ever -/
section cc
variable {α : Type} [Field α] [LinearOrder α] [IsStrictOrderedRing α]

/-- the 4-tap smoothing (x + 2x₁ + 2x₂ + x₃)/6 of values bounded by B is bounded by B -/
theorem smS_bound (xs : List α) (B : α) (hB : 0 ≤ B) (hx : ∀ x ∈ xs, |x| ≤ B) (t : Int) : |CC.smS xs t| ≤ B := by
  have hp : |(nat 0 : α)| ≤ B := by simpa using hB
  have h0 := CC.at_bound xs _ B hp hx t
  have h1 := CC.at_bound xs _ B hp hx (t - 1)
  have h2 := CC.at_bound xs _ B hp hx (t - 2)
  have h3 := CC.at_bound xs _ B hp hx (t - 3)
  unfold CC.smS
  simp only [nat_eq, Nat.cast_ofNat] at h0 h1 h2 h3 ⊢
  refine (Stable.abs_tap_le _ _ _ _).trans ?_
  rw [div_le_iff₀ (by norm_num)]
  linarith only [h0, h1, h2, h3]

/-- the input gain (1 − α/2)² of CyberCycle's recursion is at most 1 -/
theorem gain_range (N : Nat) (hN : 1 ≤ N) :
    0 ≤ (1 - (5 : α) / 10 * (2 / ((N : α) + 1))) * (1 - (5 : α) / 10 * (2 / ((N : α) + 1))) ∧
    (1 - (5 : α) / 10 * (2 / ((N : α) + 1))) * (1 - (5 : α) / 10 * (2 / ((N : α) + 1))) ≤ 1 := by
  have hp := Stable.one_sub_two_div_succ (α := α) N hN
  have h0 : 0 ≤ 1 - (5 : α) / 10 * (2 / ((N : α) + 1)) := by linarith only [hp.1, hp.2]
  have h1 : 1 - (5 : α) / 10 * (2 / ((N : α) + 1)) ≤ 1 := by linarith only [hp.2]
  exact ⟨mul_self_nonneg _, mul_le_one₀ h1 h0 h1⟩

/-- **CyberCycle is BIBO stable with a length-independent bound**: with p = 1 − α the double pole, α = 2/(N+1), every value of
the output sequence satisfies |c| ≤ 4B/(1−p)² (the input term is within 4B), and the start-up values are 0 -/
theorem C_bibo (N : Nat) (hN : 1 ≤ N) (B : α) (xs : List α) (hx : ∀ x ∈ xs, |x| ≤ B) (hB : 0 ≤ B) (n : Nat) :
    let p : α := 1 - 2 / ((N : α) + 1)
    (∀ c ∈ CC.C N xs n, |c| ≤ 4 * B / (1 - p) / (1 - p)) ∧
    |(CC.C N xs n).headD 0 - p * (CC.C N xs n).tail.headD 0| ≤ 4 * B / (1 - p) ∧
    (n < N → ∀ c ∈ CC.C N xs n, c = 0) := by
  intro p
  have hpole : 0 ≤ p ∧ p < 1 := Stable.one_sub_two_div_succ N hN
  have hgain := gain_range (α := α) N hN
  have h4B : 0 ≤ 4 * B := mul_nonneg (by norm_num) hB
  have hW0 : 0 ≤ 4 * B / (1 - p) := div_nonneg h4B (sub_nonneg.2 hpole.2.le)
  have hY0 : 0 ≤ 4 * B / (1 - p) / (1 - p) := div_nonneg hW0 (sub_nonneg.2 hpole.2.le)
  induction n with
  | zero => simp [CC.C, hW0]
  | succ n ih =>
    obtain ⟨hall, hw, hz⟩ := ih
    rw [CC.C_succ]
    set acc := CC.C N xs n
    unfold CC.stepC
    split
    · -- start-up: c = 0, and every earlier value is 0 as well
      rename_i hlt
      have hz' := hz (by omega)
      have hh0 : acc.headD 0 = 0 := by
        cases hl : acc with
        | nil => rfl
        | cons y l => exact hz' y (by rw [hl]; exact List.mem_cons_self)
      refine ⟨List.forall_mem_cons.2 ⟨by simpa using hY0, hall⟩, ?_, fun _ => List.forall_mem_cons.2 ⟨by simp, hz'⟩⟩
      simpa only [nat_eq, Nat.cast_zero, List.headD_cons, List.tail_cons, hh0, mul_zero, sub_zero, abs_zero] using hW0
    · set u : α := (1 - 5 / 10 * (2 / ((N : α) + 1))) * (1 - 5 / 10 * (2 / ((N : α) + 1)))
        * (CC.smS xs (n : Int) - 2 * CC.smS xs ((n : Int) - 1) + CC.smS xs ((n : Int) - 2)) with hu
      have huB : |u| ≤ 4 * B := by
        rw [hu, abs_mul, abs_of_nonneg hgain.1]
        exact (mul_le_of_le_one_left (abs_nonneg _) hgain.2).trans
          (second_diff_bound _ _ _ B (smS_bound xs B hB hx _) (smS_bound xs B hB hx _) (smS_bound xs B hB hx _))
      -- the step in the form `cons_bound` takes
      have hrec : sq (nat 1 - dec 5 10 * (nat 2 / (nat N + nat 1))) *
            (CC.smS xs (n : Int) - nat 2 * CC.smS xs ((n : Int) - 1) + CC.smS xs ((n : Int) - 2))
          + nat 2 * (nat 1 - nat 2 / (nat N + nat 1)) * acc.headD (nat 0)
          - sq (nat 1 - nat 2 / (nat N + nat 1)) * acc.tail.headD (nat 0)
          = (p + p) * acc.headD 0 - p * p * acc.tail.headD 0 + u := by
        simp only [nat_eq, dec_eq, sq_eq, Nat.cast_ofNat, Nat.cast_one, Nat.cast_zero, hu, p]
        ring
      have hp := (abs_of_nonneg hpole.1).le
      obtain ⟨h1, h2⟩ := cons_bound p p p (4 * B) u _ acc hpole.1 hpole.2 hp hp h4B huB hrec hall hw
      exact ⟨h1, by simpa using h2, fun h => by omega⟩

end cc

/-! ### RoofingFilter: the high-pass pole 1 − α lies strictly inside the unit circle for every N ≥ 2 -/
section roof
/-- the pole p = 1 − α = (1 − sin θ)/cos θ, θ = `ssTheta N` -/
noncomputable def roofPole (N : Nat) : ℝ := 1 - roofAlpha (α := ℝ) N

theorem roofAlpha_real (N : Nat) : roofAlpha (α := ℝ) N =
    (Real.cos (ssTheta N) + Real.sin (ssTheta N) - 1) / Real.cos (ssTheta N) := by
  simp [roofAlpha, ssTheta]

/-- for every window length the constructor accepts the angle lies in (0, π) and off π/2, hence sin θ > 0 and cos θ ≠ 0: N = 2 gives θ = 2.2211 ∈ (π/2, π),
N ≥ 3 gives θ ≤ 1.4808 < π/2 -/
theorem ssTheta_range (N : Nat) (hN : 2 ≤ N) :
    0 < Real.sin (ssTheta N) ∧ Real.cos (ssTheta N) ≠ 0 := by
  have hN' : (2 : ℝ) ≤ (N : ℝ) := by exact_mod_cast hN
  have hθ0 : 0 < ssTheta N := by unfold ssTheta; positivity
  have hθ2 : ssTheta N ≤ 44422 / 10000 / 2 := div_le_div_of_nonneg_left (by norm_num) (by norm_num) hN'
  have hπ := Real.pi_gt_d2
  refine ⟨Real.sin_pos_of_pos_of_lt_pi hθ0 (by linarith), ?_⟩
  rcases Nat.lt_or_ge N 3 with h | h
  · obtain rfl : N = 2 := by omega
    have hθ : ssTheta 2 = 22211 / 10000 := by unfold ssTheta; norm_num
    have hπ' := Real.pi_lt_d2
    exact (Real.cos_neg_of_pi_div_two_lt_of_lt (by rw [hθ]; linarith) (by rw [hθ]; linarith)).ne
  · have hN3 : (3 : ℝ) ≤ (N : ℝ) := by exact_mod_cast h
    have hθ3 : ssTheta N ≤ 44422 / 10000 / 3 := div_le_div_of_nonneg_left (by norm_num) (by norm_num) hN3
    exact (Real.cos_pos_of_mem_Ioo ⟨by linarith, by linarith⟩).ne'

/-- **for every window length the constructor accepts (N ≥ 2) the high-pass pole satisfies |1 − α| < 1**:
1 − α = (1 − sin θ)/cos θ = cos θ/(1 + sin θ), and |cos θ| ≤ 1 < 1 + sin θ -/
theorem roofPole_abs_lt_one (N : Nat) (hN : 2 ≤ N) : |roofPole N| < 1 := by
  obtain ⟨hs, hc⟩ := ssTheta_range N hN
  have h1s : 0 < 1 + Real.sin (ssTheta N) := by linarith
  have e : roofPole N = Real.cos (ssTheta N) / (1 + Real.sin (ssTheta N)) := by
    rw [roofPole, roofAlpha_real, eq_div_iff h1s.ne']
    field_simp
    linear_combination -Real.sin_sq_add_cos_sq (ssTheta N)
  rw [e, abs_div, abs_of_pos h1s, div_lt_one h1s]
  exact (Real.abs_cos_le_one _).trans_lt (by linarith)

/-- the two-pole high-pass of the RoofingFilter is BIBO: |x| ≤ B for ever ⇒ |hp| ≤ g·4B/(1−ρ)² for ever,
g = (1 − α/2)², ρ = |1 − α| < 1 -/
theorem hpSeq_bibo (N : Nat) (hN : 2 ≤ N) (B : ℝ) (xs : List ℝ) (hx : ∀ x ∈ xs, |x| ≤ B) (hB : 0 ≤ B) :
    ∀ h ∈ hpSeq N xs,
      |h| ≤ (1 - roofAlpha (α := ℝ) N / 2) * (1 - roofAlpha (α := ℝ) N / 2) * (4 * B) / (1 - |roofPole N|) / (1 - |roofPole N|) := by
  have hρ1 : |roofPole N| < 1 := roofPole_abs_lt_one N hN
  set g : ℝ := (1 - roofAlpha (α := ℝ) N / 2) * (1 - roofAlpha (α := ℝ) N / 2) with hg
  have hg0 : 0 ≤ g := mul_self_nonneg _
  have hU0 : 0 ≤ g * (4 * B) := mul_nonneg hg0 (by linarith)
  -- invariant of the fold step: the two bounds of `cons_bound` for U = g·4B, and the two previous inputs within B
  rw [Roof.hpSeq_eq, Roof.hpFold_eq_foldl]
  refine (foldl_invariant (fun st : List ℝ × ℝ × ℝ =>
      (∀ h ∈ st.1, |h| ≤ g * (4 * B) / (1 - |roofPole N|) / (1 - |roofPole N|)) ∧
      |st.1.headD 0 - roofPole N * st.1.tail.headD 0| ≤ g * (4 * B) / (1 - |roofPole N|) ∧ |st.2.1| ≤ B ∧ |st.2.2| ≤ B)
    xs (fun st x hxm ⟨hall, hw, hx1, hx2⟩ => ?_) _
    (by simp [div_nonneg hU0 (by linarith : (0 : ℝ) ≤ 1 - |roofPole N|), hB])).1
  have hxB : |x| ≤ B := hx x hxm
  have hu : |g * (x - 2 * st.2.1 + st.2.2)| ≤ g * (4 * B) := by
    rw [abs_mul, abs_of_nonneg hg0]
    exact mul_le_mul_of_nonneg_left (second_diff_bound x st.2.1 st.2.2 B hxB hx1 hx2) hg0
  -- the step in the form `cons_bound` takes
  have hrec : Roof.hpNext N st x = (roofPole N + roofPole N) * st.1.headD 0 - roofPole N * roofPole N * st.1.tail.headD 0
      + g * (x - 2 * st.2.1 + st.2.2) := by
    simp only [Roof.hpNext, nat_eq, sq_eq, Nat.cast_ofNat, Nat.cast_one, Nat.cast_zero, hg, roofPole]
    ring
  obtain ⟨h1, h2⟩ := cons_bound (roofPole N) (roofPole N) |roofPole N| _ _ _ st.1 (abs_nonneg _) hρ1 le_rfl le_rfl hU0 hu
    hrec hall hw
  exact ⟨h1, by simpa using h2, hxB, hx1⟩

end roof
end SF.DoublePole
