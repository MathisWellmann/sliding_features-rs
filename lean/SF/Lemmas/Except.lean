import SF.Basic
/-
  The panic monad `M = Except Err`: `pure`/`throw` are the constructors, `>>=` computes on a constructor, and a `do` block
  equals `.ok c` iff every statement of it succeeded (`bind_eq_ok`, for taking a hypothesis apart; where a `do`-level `if` or
  `match` comes first, `split` the hypothesis before it: the elaborator has copied the continuation into the branches).
  None of these is a global simp lemma: name them in `simp only [...]`.
-/
namespace SF
universe u v
variable {ε : Type u} {β γ : Type v}

theorem pure_eq_ok (a : β) : (pure a : Except ε β) = .ok a := rfl
theorem throw_eq_error (e : ε) : (throw e : Except ε β) = .error e := rfl
theorem ok_bind (a : β) (f : β → Except ε γ) : (Except.ok a >>= f) = f a := rfl
theorem error_bind (e : ε) (f : β → Except ε γ) : ((Except.error e : Except ε β) >>= f) = .error e := rfl

theorem bind_eq_ok {x : Except ε β} {f : β → Except ε γ} {c : γ} :
    x >>= f = .ok c ↔ ∃ a, x = .ok a ∧ f a = .ok c := by
  cases x <;> simp [ok_bind, error_bind]

/-- a constructor's `assert!`: `if c then throw e else pure x` is the panic `e` iff `c` -/
theorem ite_throw_eq_error {c : Prop} [Decidable c] {e : ε} {x : β} :
    ((if c then throw e else pure x : Except ε β) = .error e) ↔ c := by
  split <;> simp [*, pure_eq_ok, throw_eq_error]

/-- "`last()` reports a value", for an answer that is known -/
theorem exists_ok_some_iff {o : Option β} : (∃ v, (.ok o : Except ε (Option β)) = .ok (some v)) ↔ o ≠ none := by
  cases o <;> simp

variable {α : Type} [FloatLike α]

theorem assertFinite_eq_ok {x : α} {u : Unit} : assertFinite x = .ok u ↔ FloatLike.isFinite x = true := by
  unfold assertFinite; split <;> simp [*, pure_eq_ok, throw_eq_error]

end SF
