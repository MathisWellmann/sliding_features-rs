import SF.Model.Window
import SF.Lemmas.Moments
import SF.Lemmas.Field
import SF.Lemmas.Index
/- WelfordOnline, Vst, Vsct: mean / m2 are the batch statistics of the window. -/
namespace SF.Welford
open Spec Moments
variable {α : Type} [Field α]

/-- a deque with its aggregates in closed form (total division: mean and m2 are 0 for the empty deque, as initially and
after a reset) -/
def aggOf (q : List α) : WelfordState α :=
  { q := q, mean := sumL q / (q.length : α), m2 := S2 q - sumL q * sumL q / (q.length : α), count := q.length }

/-- the state after the history `xs` -/
def st (N : Nat) (xs : List α) : WelfordState α := aggOf (lastN N xs)

/-- a state whose aggregates are those of its deque is `aggOf` of it -/
theorem eq_aggOf {s : WelfordState α} {l : List α} (hq : s.q = l) (h : Agg s.count s.mean s.m2 l) : s = aggOf l := by
  obtain ⟨q, mean, m2, count⟩ := s
  obtain ⟨rfl, rfl, rfl⟩ := h
  obtain rfl : q = l := hq
  rfl

theorem agg_aggOf (q : List α) : Agg (aggOf q).count (aggOf q).mean (aggOf q).m2 q := ⟨rfl, rfl, rfl⟩

/-- Vst / Vsct keep a WelfordOnline and the latest value -/
def vst_st (N : Nat) (xs : List α) : VstState α := { last := (xs.getLast?).getD 0, wo := st N xs }

variable [LinearOrder α] [IsStrictOrderedRing α]

/-- `variance()` is the sample variance of exactly the window -/
theorem variance_st (N : Nat) (xs : List α) : (st N xs).variance = Spec.sampleVar (lastN N xs) := by
  have hc : (st N xs).count = (lastN N xs).length := rfl
  have hm : (st N xs).m2 = S2 (lastN N xs) - sumL (lastN N xs) * sumL (lastN N xs) / ((lastN N xs).length : α) := rfl
  simp only [WelfordState.variance, Spec.sampleVar, hc, hm, ← Nat.not_lt, ite_not]
  split
  next h1 => rw [sum_sq_dev_mean _ (List.ne_nil_of_length_pos (by omega))]
  next => rfl

/-- the `remove` step (divides by `count − 1`, resets when the window empties) keeps the aggregates equal to the batch
statistics of the deque without its oldest value -/
theorem remove_agg (t : WelfordState α) (old : α) (l : List α) (h : Agg t.count t.mean t.m2 (old :: l)) :
    Agg (t.remove old).count (t.remove old).mean (t.remove old).m2 l := by
  unfold WelfordState.remove
  split
  · -- N = 1: the window empties and the aggregates are reset
    next hc =>
    obtain rfl : l = [] := List.eq_nil_of_length_eq_zero (by have := h.hc; simp at this; omega)
    simpa using agg_nil (α := α)
  · next hc => exact agg_remove _ _ _ l old h (by rintro rfl; exact hc (by simp [h.hc]))

theorem step_st (N : Nat) (hN : 0 < N) (xs : List α) (x : α) : welfordStep N (st N xs) x = .ok (st N (xs ++ [x])) := by
  rw [st, st, lastN_snoc N hN]
  rcases lastN_cases N hN xs with ⟨hlt, hw, hw'⟩ | ⟨old, hle, hw, hlen⟩
  · -- the deque stays within N: only the update
    rw [hw, hw']
    have hnf : ¬ N < (xs ++ [x]).length := by simp; omega
    simp only [welfordStep, aggOf, hnf, if_false, ok_bind, pure_eq_ok]
    exact congrArg _ (eq_aggOf rfl (agg_add _ _ _ xs x (agg_aggOf xs)))
  · -- the push makes the deque N+1 long: evict, downdate, update
    rw [hw]
    have hf : N < (old :: (lastN (N - 1) xs ++ [x])).length := by simp; omega
    simp only [welfordStep, aggOf, List.cons_append, hf, if_true, popFront_cons, ok_bind, pure_eq_ok]
    refine congrArg _ (eq_aggOf ?_ (agg_add _ _ _ _ x (remove_agg _ old _ (agg_aggOf (old :: lastN (N - 1) xs)))))
    simp only [WelfordState.add, WelfordState.remove]; split <;> rfl

variable [FloatLike α] [Transc α]

theorem tracks (N : Nat) (hN : 0 < N) : (welfordCoreU (α := α) N).Tracks (st N) where
  init := by show st N [] = welfordInit; simp [st, aggOf, welfordInit]
  step := step_st N hN

theorem vst_tracks (N : Nat) (hN : 0 < N) : (vstCoreU (α := α) N).Tracks (vst_st N) where
  init := by show vst_st N [] = { last := nat 0, wo := welfordInit }; simp [vst_st, st, aggOf, welfordInit]
  step xs x := by simp [vstCoreU, vst_st, step_st N hN, ok_bind, pure_eq_ok]

/-- Vsct updates exactly as Vst does -/
theorem vsct_tracks (N : Nat) (hN : 0 < N) : (vsctCoreU (α := α) N).Tracks (vst_st N) where
  init := by show vst_st N [] = { last := nat 0, wo := welfordInit }; simp [vst_st, st, aggOf, welfordInit]
  step xs x := by simp [vsctCoreU, vst_st, step_st N hN, ok_bind, pure_eq_ok]

variable [ExactScalar α]

/-- `last()`: nothing before N-1 values, then the sample standard deviation of exactly the window -/
theorem out_st (N : Nat) (hN : 0 < N) (xs : List α) : welfordOut N (st N xs) = .ok (Spec.welford N xs) := by
  have hc : (st N xs).count = min N xs.length := lastN_length N xs
  simp only [welfordOut, usub_ok hN, ok_bind, Spec.welford, Spec.stdOf]
  by_cases hlt : xs.length < N - 1
  · have : (st N xs).count < N - 1 := by omega
    simp [this, hlt, pure_eq_ok]
  · have : ¬ (st N xs).count < N - 1 := by omega
    simp only [this, hlt, if_false, variance_st]
    split <;> simp [pure_eq_ok, ok_bind]

theorem vst_out_st (N : Nat) (hN : 0 < N) (xs : List α) : (vstCoreU N).out (vst_st N xs) = .ok (Spec.vst N xs) := by
  simp only [vstCoreU, vst_st, out_st N hN, ok_bind, Spec.vst]
  cases Spec.welford N xs with
  | none => rfl
  | some sd =>
    -- the spec splits on whether a value has been delivered, the model on `sd = 0`; before the first value `last` is 0
    cases xs.getLast? <;> by_cases h0 : sd = 0 <;> simp [h0, pure_eq_ok, ok_bind]

theorem vsct_out_st (N : Nat) (hN : 0 < N) (xs : List α) : (vsctCoreU N).out (vst_st N xs) = .ok (Spec.vsct N xs) := by
  simp only [vsctCoreU, vst_st, out_st N hN, ok_bind, Spec.vsct]
  cases Spec.welford N xs with
  | none => rfl
  | some sd =>
    cases hg : xs.getLast? with
    | none =>
      -- N = 1 and nothing delivered: `last` is still 0, the window is empty, mean 0
      obtain rfl : xs = [] := by simpa using hg
      by_cases h0 : sd = 0 <;> simp [h0, pure_eq_ok, ok_bind, st, aggOf]
    | some v => by_cases h0 : sd = 0 <;> simp [h0, pure_eq_ok, ok_bind, st, aggOf, Spec.welfordMean, Spec.mean]

end SF.Welford
