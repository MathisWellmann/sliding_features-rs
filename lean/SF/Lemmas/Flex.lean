import SF.Lemmas.SuperSmoother
import SF.Lemmas.Index
import SF.Lemmas.SpecFacts
/- TrendFlex and ReFlex (N ≥ 3): the window holds the last min(t+1, N) values of the flex smoother (started with
   x(−1) = x(0), its own registers f(−1), f(−2) at 0: it does NOT reproduce a constant stream from the start); the loop sums the deviations newest-first; leaky mean square; TrendFlex reports 0, ReFlex holds its
   previous output, while the mean square is 0.  The two views differ only in the deviation loop and in that last choice, so
   they are characterised once, as instances of one core `coreG` and one batch definition `specG` (namespace `Flex`: `st`,
   `tracks`, `out_st`, `size_st_le`); `TrendFlex` and `ReFlex` hold the two deviations and their `tracks`. -/
namespace SF.Flex
open SF.Spec

section
variable {α : Type} [Field α] [LinearOrder α] [IsStrictOrderedRing α] [FloatLike α] [ExactScalar α] [Transc α]
set_option linter.unusedSectionVars false in
theorem sumL_reverse (l : List α) : sumL l.reverse = sumL l := by
  induction l with
  | nil => rfl
  | cons x r ih => simp [ih, add_comm]
end

variable {α : Type}

/-- the sequence d(0), …, d(t) of deviations of a sequence `fs` of filter values (oldest first) -/
def dsG (dev : List α → Nat → α) (fs : List α) : List α := (List.range fs.length).map (dev fs)

theorem dsG_snoc (dev : List α → Nat → α) (hpre : ∀ (fs : List α) (f : α) (t : Nat), t < fs.length → dev (fs ++ [f]) t = dev fs t)
    (fs : List α) (f : α) : dsG dev (fs ++ [f]) = dsG dev fs ++ [dev (fs ++ [f]) fs.length] := by
  simp only [dsG, List.length_append, List.length_singleton, List.range_succ, List.map_append, List.map_cons, List.map_nil]
  congr 1
  exact List.map_congr_left fun t ht => hpre fs f t (List.mem_range.mp ht)

variable [Field α]

/-! ### the deviation loop and the window it runs over -/

theorem front_reverse (L : List α) (h : L ≠ []) : front L.reverse = .ok (L.getLast?.getD (nat 0)) := by
  cases hrev : L.reverse with
  | nil => simp at hrev; exact absurd hrev h
  | cons y ys =>
    have : L.getLast? = some y := by rw [← List.head?_reverse, hrev]; rfl
    simp [front, this, pure_eq_ok]

theorem range_map_getElem_idx (l : List α) (h : Nat → α → α) (k : Nat) (hk : k ≤ l.length) :
    (List.range k).map (fun i => h i (l[i]?.getD (nat 0))) = (l.take k).zipIdx.map fun (x, i) => h i x := by
  induction k with
  | zero => simp
  | succ k ih =>
    have hlt : k < l.length := by omega
    rw [List.range_succ, List.map_append, ih (by omega), List.take_add_one, List.getElem?_eq_getElem hlt]
    simp only [List.map_cons, List.map_nil, Option.toList_some, List.zipIdx_append, List.map_append,
      List.getElem?_eq_getElem hlt, Option.getD_some, List.zipIdx_cons, List.zipIdx_nil, List.length_take, Nat.zero_add]
    rw [Nat.min_eq_left (by omega)]

/-- the deviation loop both views run adds `g i q[len−1−i]` for i = 0..len−1: the sum over the reversed window -/
theorem forRange_dev (q : List α) (g : Nat → α → α) :
    forRange 0 q.length (nat 0 : α) (fun d i => do
        let x ← getIdx q (q.length - 1 - i)
        pure (d + g i x))
      = .ok (sumL (q.reverse.zipIdx.map fun (x, i) => g i x)) := by
  rw [forRange, Nat.sub_zero, foldlM_sum q.length _ (fun i => g i (q.reverse[i]?.getD (nat 0))) fun acc i hi => by
      rw [getIdx_ok q _ (nat 0) (by omega), ok_bind, pure_eq_ok, List.getElem?_reverse hi],
    range_map_getElem_idx q.reverse g q.length (by simp), List.take_of_length_le (by simp), nat_eq, Nat.cast_zero, zero_add]

theorem newest_getD (Rl : List α) (f : α) : (f :: Rl).reverse[Rl.length]?.getD (nat 0) = f := by
  rw [List.getElem?_reverse (by simp)]; simp

/-- what the spec sums is the window: its terms `h i f(t − i)`, i = 0 .. min(t, N−1), over the oldest-first sequence are the
terms `h i x` over the newest-first window `(f :: Rl).take N`, x its i-th entry -/
theorem window_map (N : Nat) (hN : 0 < N) (Rl : List α) (f : α) (h : Nat → α → α) :
    (List.range (min Rl.length (N - 1) + 1)).map (fun i => h i ((f :: Rl).reverse[Rl.length - i]?.getD (nat 0)))
      = ((f :: Rl).take N).zipIdx.map fun (x, i) => h i x := by
  have hi : ∀ i ∈ List.range (min Rl.length (N - 1) + 1),
      h i ((f :: Rl).reverse[Rl.length - i]?.getD (nat 0)) = h i ((f :: Rl)[i]?.getD (nat 0)) := by
    intro i hi
    have hi' : i ≤ Rl.length := by have := List.mem_range.mp hi; omega
    rw [List.getElem?_reverse (by simp; omega)]
    congr 3
    simp; omega
  rw [List.map_congr_left hi, range_map_getElem_idx (f :: Rl) h _ (by simp)]
  congr 2
  -- take (min |Rl| (N-1) + 1) = take N on a list of length |Rl|+1
  rcases Nat.lt_or_ge Rl.length (N - 1) with h | h
  · rw [Nat.min_eq_left (Nat.le_of_lt h), List.take_of_length_le (by simp), List.take_of_length_le (by simp; omega)]
  · rw [Nat.min_eq_right h]; congr 1; omega

variable [Transc α]

/-! ### the flex smoother -/

/-- newest-first filter values after xs (pad = the first value) -/
def R (N : Nat) (xs : List α) : List α := (SS.foldState (flexCoef N) (xs.headD (nat 0)) xs).1

theorem R_snoc (N : Nat) (xs : List α) (x : α) :
    R N (xs ++ [x]) =
      ((flexCoef N).c1 * (x + (xs.getLast?).getD x) / nat 2 + (flexCoef N).b1 * (R N xs).headD (nat 0)
        + (flexCoef N).c3 * (R N xs).tail.headD (nat 0)) :: R N xs := by
  cases xs with
  | nil => simp [R, SS.foldState]
  | cons a r =>
    simp only [R, List.cons_append, List.headD_cons]
    rw [← List.cons_append, SS.foldState_snoc]
    simp only [SS.prev_input]
    cases h : (a :: r).getLast? with
    | none => simp at h
    | some y => simp

/-- the filter step on the deque after room has been made: the two newest of the N − 1 values left are the two newest of all -/
theorem filt_eq (N : Nat) (hN : 3 ≤ N) (Rl : List α) (v lv : α) :
    flexFilt N (flexTrim N ((Rl.take N).reverse)) v lv =
      .ok ((flexCoef N).c1 * (v + lv) / nat 2 + (flexCoef N).b1 * Rl.headD (nat 0) + (flexCoef N).c3 * Rl.tail.headD (nat 0)) := by
  rw [flexTrim, take_reverse_trim N (by omega)]
  obtain ⟨k, rfl⟩ : ∃ k, N = k + 3 := ⟨N - 3, by omega⟩
  match Rl with
  | [] => simp [flexFilt, Spec.flexCoef, pure_eq_ok, nat_eq]
  | [a] => simp [flexFilt, Spec.flexCoef, pure_eq_ok, nat_eq, getIdx, ok_bind]
  | a :: b :: R2 =>
    have e : ((a :: b :: R2).take (k + 3 - 1)).reverse = (R2.take k).reverse ++ [b] ++ [a] := by
      simp [show k + 3 - 1 = k + 2 by omega, List.take_succ_cons]
    have hl : ((R2.take k).reverse ++ [b] ++ [a]).length = (R2.take k).reverse.length + 1 + 1 := by simp
    rw [e]
    simp only [flexFilt, hl, Nat.add_one_ne_zero, Nat.add_eq_right, if_false, Nat.add_sub_cancel,
      show ∀ n : Nat, n + 1 + 1 - 2 = n from fun _ => rfl, getIdx_snoc_snoc _ b a rfl, getIdx_snoc_snoc_succ _ b a rfl,
      ok_bind, pure_eq_ok]
    simp only [Spec.flexCoef, List.headD_cons, List.tail_cons, nat_eq]
    congr 1; ring

variable [LinearOrder α]

/-! ### the batch definition, generic in the deviation -/

/-- the fold step of `Spec.flexNorm`: the leaky mean square and the value reported with it -/
def normStep (hold : Bool) (acc : α × Option α) (d : α) : α × Option α :=
  (dec 4 100 * sq d + dec 96 100 * acc.1,
   if nat 0 < dec 4 100 * sq d + dec 96 100 * acc.1 then some (d / Transc.sqrt (dec 4 100 * sq d + dec 96 100 * acc.1))
   else if hold then acc.2 else some (nat 0))

theorem flexNorm_eq (hold : Bool) (ds : List α) : flexNorm hold ds = (ds.foldl (normStep hold) (nat 0, none)).2 := rfl

/-- what `Spec.trendFlex` and `Spec.reFlex` have in common: the flex smoother started with x(−1) = x(0), a deviation `dev` of
the newest filter value from the window, the leaky normalisation (`hold`: keep the previous output while the mean square is 0) -/
def specG (hold : Bool) (dev : List α → Nat → α) (N : Nat) (xs : List α) : Option α :=
  match xs with
  | [] => none
  | x0 :: _ => ((dsG dev (smoothSeq (flexCoef N) x0 xs).reverse).foldl (normStep hold) (nat 0, none)).2

theorem specG_cons (hold : Bool) (dev : List α → Nat → α) (N : Nat) (x0 : α) (r : List α) :
    specG hold dev N (x0 :: r) = ((dsG dev (smoothSeq (flexCoef N) x0 (x0 :: r)).reverse).foldl (normStep hold) (nat 0, none)).2 := rfl

/-! ### the model, generic in what follows the push -/

/-- TrendFlex and ReFlex as one core: they differ in the `rest` of the step after the new filter value has been pushed — the
loop that sums the deviations over the window, and what is reported while the mean square is 0 -/
def coreG (N : Nat) (rest : FlexState α → α → List α → α → M (FlexState α)) : Core α where
  σ := FlexState α
  init := { lastVal := nat 0, lastM := nat 0, q := [], out := none }
  step s v := do
    let lastVal := if s.q.isEmpty then v else s.lastVal
    let q := flexTrim N s.q
    let filt ← flexFilt N q v lastVal
    rest s v (q ++ [filt]) filt
  out s := pure s.out
  size s := s.q.length

section generic
variable (N : Nat) (hold : Bool) (rest : FlexState α → α → List α → α → M (FlexState α)) (devV : List α → α)
  (dev : List α → Nat → α)

/-- the state after the history `xs`: the previous input, the leaky mean square and the reported value of the batch fold, the
window of filter values (oldest first) -/
def st (xs : List α) : FlexState α :=
  { lastVal := xs.getLast?.getD (nat 0), lastM := ((dsG dev (R N xs).reverse).foldl (normStep hold) (nat 0, none)).1,
    q := ((R N xs).take N).reverse, out := ((dsG dev (R N xs).reverse).foldl (normStep hold) (nat 0, none)).2 }

/-- stated for `pure s.out`, which is what `out s` of `coreG N rest` (any `rest`), hence of `tflexCore N` and `rflexCore N`,
unfolds to -/
theorem out_st (xs : List α) : (pure (st N hold dev xs).out : M (Option α)) = .ok (specG hold dev N xs) := by
  cases xs <;> rfl

/-- likewise for `s.q.length`, the `size s` of these cores -/
theorem size_st_le (xs : List α) : (st N hold dev xs).q.length ≤ N := by
  rw [st, List.length_reverse, List.length_take]
  exact Nat.min_le_left _ _

variable {N hold rest devV dev}

/-- the previous input the filter will see: the next input itself on the first step -/
theorem lastVal_st (hN : 0 < N) (xs : List α) (x : α) :
    (if (st N hold dev xs).q.isEmpty then x else (st N hold dev xs).lastVal) = (xs.getLast?).getD x := by
  rcases List.eq_nil_or_concat xs with rfl | ⟨ys, y, rfl⟩
  · rw [st, show R N ([] : List α) = [] from rfl, List.take_nil]; rfl
  · simp [st, R_snoc, List.take_cons hN]

variable [FloatLike α] [ExactScalar α]

theorem emit_eq (N : Nat) (lastM v : α) (q : List α) (dsum : α) (dflt : Option α) :
    flexEmit N lastM v q dsum dflt = .ok
      { lastVal := v, lastM := dec 4 100 * sq (dsum / nat N) + dec 96 100 * lastM, q := q,
        out := if nat 0 < dec 4 100 * sq (dsum / nat N) + dec 96 100 * lastM
               then some (dsum / nat N / Transc.sqrt (dec 4 100 * sq (dsum / nat N) + dec 96 100 * lastM)) else dflt } := by
  simp only [flexEmit]
  split <;> simp only [assertFinite_exact, ok_bind, pure_eq_ok]

variable
  -- the loop computes `devV` of the window (newest first), the spec's newest d(t) is `devV / N`, older d(t) do not change
  (hdev : ∀ (s : FlexState α) (v f : α) (W : List α), rest s v (f :: W).reverse f =
    flexEmit N s.lastM v (f :: W).reverse (devV (f :: W)) (if hold then s.out else some (nat 0)))
  (hlast : ∀ (Rl : List α) (f : α), dev (f :: Rl).reverse Rl.length = devV ((f :: Rl).take N) / nat N)
  (hpre : ∀ (fs : List α) (f : α) (t : Nat), t < fs.length → dev (fs ++ [f]) t = dev fs t)
include hdev hlast hpre

theorem tracks (hN : 3 ≤ N) : (coreG N rest).Tracks (st N hold dev) where
  init := by rw [st, show R N ([] : List α) = [] from rfl, List.take_nil]; rfl
  step xs x := by
    have hN0 : 0 < N := by omega
    set f := (flexCoef N).c1 * (x + (xs.getLast?).getD x) / nat 2 + (flexCoef N).b1 * (R N xs).headD (nat 0)
          + (flexCoef N).c3 * (R N xs).tail.headD (nat 0) with hf
    have hR : R N (xs ++ [x]) = f :: R N xs := R_snoc N xs x
    -- the deque after the push holds the window, newest first: f and the N − 1 newest before it
    have hqn : flexTrim N ((R N xs).take N).reverse ++ [f] = ((f :: R N xs).take N).reverse := by
      rw [flexTrim, take_reverse_trim N hN0, take_reverse_push N hN0]
    have hW : (f :: R N xs).take N = f :: (R N xs).take (N - 1) := List.take_cons hN0
    have hd := hdev (st N hold dev xs) x f ((R N xs).take (N - 1))
    rw [← hW] at hd
    -- the batch fold advances by one `normStep`, on the newest deviation
    have hn : (dsG dev (R N (xs ++ [x])).reverse).foldl (normStep hold) (nat 0, none)
        = normStep hold ((dsG dev (R N xs).reverse).foldl (normStep hold) (nat 0, none)) (devV ((f :: R N xs).take N) / nat N) := by
      rw [hR, List.reverse_cons, dsG_snoc dev hpre, List.foldl_append, ← List.reverse_cons, List.length_reverse, hlast]; rfl
    have hstep : (coreG N rest).step (st N hold dev xs) x =
        (flexFilt N (flexTrim N (st N hold dev xs).q) x (if (st N hold dev xs).q.isEmpty then x else (st N hold dev xs).lastVal)
          >>= fun filt => rest (st N hold dev xs) x (flexTrim N (st N hold dev xs).q ++ [filt]) filt) := rfl
    rw [hstep, lastVal_st hN0, show (st N hold dev xs).q = ((R N xs).take N).reverse from rfl, filt_eq N hN, ← hf, ok_bind, hqn,
      hd, emit_eq]
    unfold st
    rw [hn, hR, List.getLast?_concat]
    cases hold <;> rfl

end generic

end SF.Flex

namespace SF.TrendFlex
open SF.Spec SF.Flex
variable {α : Type} [Field α]

/-- TrendFlex's d(t): the mean over N of the deviations of f(t) from the last min(t+1, N) filter values -/
def D (N : Nat) (fs : List α) (t : Nat) : α :=
  sumL ((List.range (min t (N - 1) + 1)).map fun i => (fs[t]?.getD (nat 0)) - (fs[t - i]?.getD (nat 0))) / nat N

theorem D_prefix (N : Nat) (fs : List α) (f : α) (t : Nat) (ht : t < fs.length) : D N (fs ++ [f]) t = D N fs t := by
  simp only [D]
  congr 2
  apply List.map_congr_left
  intro i _
  rw [List.getElem?_append_left ht, List.getElem?_append_left (by omega)]

/-- the window sum of TrendFlex's loop: Σ (f − x) over the window W (newest first, f = its head) -/
def tdev (W : List α) : α := sumL (W.zipIdx.map fun (x, _) => W.headD (nat 0) - x)

/-- the newest deviation, in terms of the newest-first list f :: Rl of filter values -/
theorem D_last (N : Nat) (hN : 0 < N) (Rl : List α) (f : α) :
    D N (f :: Rl).reverse Rl.length = tdev ((f :: Rl).take N) / nat N := by
  simp only [D, tdev]
  rw [newest_getD, window_map N hN Rl f (fun _ x => f - x), List.take_cons hN, List.headD_cons]

variable [Transc α] [LinearOrder α]

theorem trendFlex_eq_specG (N : Nat) (xs : List α) : Spec.trendFlex N xs = specG false (D N) N xs := by
  cases xs <;> rfl

variable [FloatLike α] [ExactScalar α]

/-- what TrendFlex does after the push -/
def tRest (N : Nat) (s : FlexState α) (v : α) (q : List α) (filt : α) : M (FlexState α) := do
  let dsum ← tflexDsum q filt
  flexEmit N s.lastM v q dsum (some (nat 0))

theorem tracks (N : Nat) (hN : 3 ≤ N) : (tflexCore (α := α) N).Tracks (st N false (D N)) :=
  -- `tflexCore N` is `coreG N (tRest N)` by `rfl`
  Flex.tracks (rest := tRest N) (fun s v f W => by rw [tRest, tflexDsum, forRange_dev, List.reverse_reverse]; rfl)
    (D_last N (by omega)) (D_prefix N) hN

end SF.TrendFlex

namespace SF.ReFlex
open SF.Spec SF.Flex
variable {α : Type} [Field α]

/-- ReFlex's d(t): as TrendFlex's, the deviations taken from the line through the newest and the oldest value of the window -/
def D (N : Nat) (fs : List α) (t : Nat) : α :=
  sumL ((List.range (min t (N - 1) + 1)).map fun i =>
    ((fs[t]?.getD (nat 0)) + nat i * (((fs[t - min t (N - 1)]?.getD (nat 0)) - (fs[t]?.getD (nat 0))) / nat N))
      - (fs[t - i]?.getD (nat 0))) / nat N

theorem D_prefix (N : Nat) (fs : List α) (f : α) (t : Nat) (ht : t < fs.length) : D N (fs ++ [f]) t = D N fs t := by
  simp only [D]
  rw [List.getElem?_append_left ht, List.getElem?_append_left (by omega : t - min t (N - 1) < fs.length)]
  congr 2
  apply List.map_congr_left
  intro i _
  rw [List.getElem?_append_left (by omega : t - i < fs.length)]

/-- the window sum of ReFlex's loop over the window W (newest first, f = its head, the oldest its last) -/
def rdev (N : Nat) (W : List α) : α :=
  sumL (W.zipIdx.map fun (x, i) =>
    (W.headD (nat 0) + nat i * ((W.getLast?.getD (nat 0) - W.headD (nat 0)) / nat N)) - x)

/-- the newest deviation, in terms of the newest-first list f :: Rl of filter values -/
theorem D_last (N : Nat) (hN : 0 < N) (Rl : List α) (f : α) :
    D N (f :: Rl).reverse Rl.length = rdev N ((f :: Rl).take N) / nat N := by
  have hm : min Rl.length (N - 1) + 1 = ((f :: Rl).take N).length := by simp; omega
  have hfr : (f :: Rl).reverse[Rl.length - min Rl.length (N - 1)]?.getD (nat 0) = ((f :: Rl).take N).getLast?.getD (nat 0) := by
    rw [List.getElem?_reverse (by simp; omega), List.getLast?_eq_getElem?, List.getElem?_take_of_lt (by rw [← hm]; omega)]
    congr 2
    simp only [List.length_cons, List.length_take]; omega
  simp only [D, rdev]
  rw [newest_getD, hfr, window_map N hN Rl f
    (fun i x => (f + nat i * ((((f :: Rl).take N).getLast?.getD (nat 0) - f) / nat N)) - x)]
  conv_rhs => rw [show ((f :: Rl).take N).headD (nat 0) = f by rw [List.take_cons hN, List.headD_cons]]

variable [Transc α] [LinearOrder α]

theorem reFlex_eq_specG (N : Nat) (xs : List α) : Spec.reFlex N xs = specG true (D N) N xs := by
  cases xs <;> rfl

variable [FloatLike α] [ExactScalar α]

/-- what ReFlex does after the push -/
def rRest (N : Nat) (s : FlexState α) (v : α) (q : List α) (filt : α) : M (FlexState α) := do
  let fr ← front q
  let dsum ← rflexDsum q filt ((fr - filt) / nat N)
  flexEmit N s.lastM v q dsum s.out

theorem tracks (N : Nat) (hN : 3 ≤ N) : (rflexCore (α := α) N).Tracks (st N true (D N)) :=
  -- `rflexCore N` is `coreG N (rRest N)` by `rfl`
  Flex.tracks (rest := rRest N)
    (fun s v f W => by
      rw [rRest, front_reverse (f :: W) (by simp), ok_bind, rflexDsum, forRange_dev, ok_bind, List.reverse_reverse]
      rfl)
    (D_last N (by omega)) (D_prefix N) hN

end SF.ReFlex
