import SF.Lemmas.SpecFacts
import SF.Lemmas.MinMax
import SF.Lemmas.Rsi
/- How the building blocks of the batch specs (window min / max, `changes`, gains / losses, Kendall's numerator, the
   min–max normalisation) commute with `List.map f`; C12's invariances are read off these and `lastN_map`.  C03 uses the
   facts about `changes` of a suffix. -/
namespace SF.Invar
open SF.Spec SF.MinMax

section order
variable {α β : Type} [LinearOrder α] [LinearOrder β]

/-- a monotone map carries the least member to the least member of the image -/
theorem minL_map_of_monotone (f : α → β) (hf : Monotone f) (l : List α) : minL (l.map f) = (minL l).map f := by
  cases h : minL l with
  | none => rw [(minL_none l).mp h]; rfl
  | some m =>
    have hm : mem (l.map f) = f '' mem l := by ext; simp [mem]
    rw [Option.map_some, minL_eq_some, hm]
    exact hf.map_isLeast (minL_eq_some.mp h)

/-- through `maxL_eq_minL_dual` the other three cases are the lemma above at `αᵒᵈ` / `βᵒᵈ` -/
theorem maxL_map_of_monotone (f : α → β) (hf : Monotone f) (l : List α) : maxL (l.map f) = (maxL l).map f := by
  rw [maxL_eq_minL_dual, maxL_eq_minL_dual]
  exact minL_map_of_monotone (α := αᵒᵈ) (β := βᵒᵈ) f hf.dual l

theorem minL_map_of_antitone (f : α → β) (hf : Antitone f) (l : List α) : minL (l.map f) = (maxL l).map f := by
  rw [maxL_eq_minL_dual]
  exact minL_map_of_monotone (α := αᵒᵈ) f hf.dual_left l

theorem maxL_map_of_antitone (f : α → β) (hf : Antitone f) (l : List α) : maxL (l.map f) = (minL l).map f := by
  rw [maxL_eq_minL_dual]
  exact minL_map_of_monotone (β := βᵒᵈ) f hf.dual_right l
end order

section
variable {α : Type} [Field α]

theorem minmax_affine (a b lo hi x : α) (ha : a ≠ 0) :
    (a * x + b - (a * lo + b)) / (a * hi + b - (a * lo + b)) = (x - lo) / (hi - lo) := by
  rw [show a * x + b - (a * lo + b) = a * (x - lo) by ring, show a * hi + b - (a * lo + b) = a * (hi - lo) by ring,
    mul_div_mul_left _ _ ha]

theorem changes_map (f : α → α) (hsub : ∀ x y, f (x - y) = f x - f y) (xs : List α) :
    changes (xs.map f) = (changes xs).map f := by
  have h0 : f 0 = 0 := by simpa using hsub 0 0
  cases xs with
  | nil => rfl
  | cons x0 r =>
    simp only [List.map_cons, changes, nat_eq, Nat.cast_zero, h0]
    rw [← List.map_cons, List.zip_map, List.map_map, List.map_map]
    simp only [Function.comp_def, Prod.map, hsub]

/-- past its leading 0, `changes` is the list of successive differences -/
theorem changes_tail (xs : List α) : (changes xs).tail = (xs.tail.zip xs).map fun (x, p) => x - p := by
  cases xs <;> rfl

theorem changes_tail_drop (k : Nat) (xs : List α) : (changes (xs.drop k)).tail = (changes xs).tail.drop k := by
  simp only [changes_tail, List.zip_eq_zipWith, ← List.map_drop, List.drop_zipWith, List.tail_drop]
  congr 2
  rw [← List.drop_one, List.drop_drop, Nat.add_comm]
end

variable {α : Type} [Field α] [LinearOrder α] [IsStrictOrderedRing α]

theorem affine_strictMono (a b : α) (ha : 0 < a) : StrictMono fun x => a * x + b :=
  fun _ _ h => add_lt_add_left (mul_lt_mul_of_pos_left h ha) b

omit [IsStrictOrderedRing α] in
/-- `c = 1`: strictly increasing `f`; `c = −1`: strictly decreasing; `c = 0`: constant -/
theorem kendallNum_map (f : α → α) (c : α) (H : ∀ x y, sgn0 (f y - f x) = c * sgn0 (y - x)) (w : List α) :
    kendallNum (w.map f) = c * kendallNum w := by
  induction w with
  | nil => simp [kendallNum]
  | cons x r ih =>
    simp only [List.map_cons, kendallNum, ih, List.map_map, Function.comp_def, H, sumL_map_mul_left, mul_add]

section
open Rsi

theorem gains_neg (N : Nat) (xs : List α) : gains N (xs.map fun x => -x) = losses N xs := by
  simp only [gains_eq, losses_eq, changes_map (fun x : α => -x) neg_sub', lastN_map, List.map_map,
    Function.comp_def, lp_eq_gp_neg]

theorem losses_neg (N : Nat) (xs : List α) : losses N (xs.map fun x => -x) = gains N xs := by
  rw [← gains_neg, List.map_map]
  simp

theorem gains_scale (N : Nat) (a : α) (ha : 0 ≤ a) (xs : List α) : gains N (xs.map fun x => a * x) = a * gains N xs := by
  simp only [gains_eq, changes_map (fun x => a * x) (mul_sub a), lastN_map, List.map_map,
    Function.comp_def, gp_mul _ _ ha, sumL_map_mul_left]

theorem losses_scale (N : Nat) (a : α) (ha : 0 ≤ a) (xs : List α) : losses N (xs.map fun x => a * x) = a * losses N xs := by
  simp only [← gains_neg, List.map_map, Function.comp_def, ← mul_neg, ← gains_scale N a ha]

variable [FloatLike α] [ExactScalar α]

/-- the last N changes are those of the last N+1 values (minus the leading 0 of `changes`) -/
theorem lastN_changes (N : Nat) (xs : List α) (h : N + 1 ≤ xs.length) :
    lastN N (changes xs) = (changes (lastN (N + 1) xs)).tail := by
  simp only [lastN, changes_length, changes_tail_drop]
  rw [← List.drop_one, List.drop_drop]
  congr 1
  omega

theorem gains_suffix (N : Nat) (xs ys : List α) (hx : N + 1 ≤ xs.length) (hy : N + 1 ≤ ys.length)
    (h : lastN (N + 1) xs = lastN (N + 1) ys) : gains N xs = gains N ys ∧ losses N xs = losses N ys := by
  simp only [gains, losses, lastN_changes N xs hx, lastN_changes N ys hy, h, and_self]
end

end SF.Invar
