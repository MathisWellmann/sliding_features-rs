import SF.Model.Pure
import SF.Lemmas.Moments
import SF.Lemmas.Field
/- Drawdown, WelfordRolling, LnReturn: equal to their batch definition over the whole history. -/
namespace SF.Rolling
open Spec Moments

section drawdown
variable {α : Type} [Field α] [LinearOrder α]

/-- the spec's fold state after a history: (running peak, largest relative decline so far) -/
def ddFold (xs : List α) : Option α × α :=
  xs.foldl (fun (acc : Option α × α) (x : α) =>
    let peak := match acc.1 with
      | none => x
      | some p => if p < x then x else p
    let dd := (peak - x) / peak
    (some peak, if acc.2 < dd then dd else acc.2)) (none, nat 0)

theorem drawdown_eq_fold (xs : List α) : Spec.drawdown xs = (ddFold xs).2 := rfl

theorem ddFold_snoc (xs : List α) (x : α) :
    ddFold (xs ++ [x]) =
      (let acc := ddFold xs
       let peak := match acc.1 with
         | none => x
         | some p => if p < x then x else p
       let dd := (peak - x) / peak
       (some peak, if acc.2 < dd then dd else acc.2)) := by
  simp [ddFold, List.foldl_append]

variable [FloatLike α]

/-- model state ↔ spec fold, for positive inputs -/
structure DrawdownInv (s : DrawdownState α) (xs : List α) : Prop where
  hdd : s.maxDD = (ddFold xs).2
  hnonneg : 0 ≤ s.maxDD
  hpeak : xs ≠ [] → (ddFold xs).1 = some s.peak ∧ 0 < s.peak ∧ 0 < s.minAfterPeak ∧ s.minAfterPeak ≤ s.peak ∧
    (s.peak - s.minAfterPeak) / s.peak ≤ s.maxDD
  hinit : xs = [] → s.peak = FloatLike.minValue ∧ (ddFold xs).1 = none

theorem drawdown_init_inv : DrawdownInv (drawdownCore (α := α)).init [] :=
  ⟨by simp [drawdownCore, ddFold], by simp [drawdownCore], fun h => absurd rfl h, fun _ => ⟨rfl, rfl⟩⟩

variable [IsStrictOrderedRing α]

theorem drawdown_step_ok (hmin : (FloatLike.minValue : α) < 0) (s : DrawdownState α) (xs : List α) (x : α) (hx : 0 < x)
    (h : DrawdownInv s xs) : ∃ s', (drawdownCore (α := α)).step s x = .ok s' ∧ DrawdownInv s' (xs ++ [x]) := by
  obtain ⟨hdd, hnn, hpk, hin⟩ := h
  have hnd : ¬ s.maxDD < 0 := not_lt.mpr hnn
  by_cases hnew : s.peak < x
  · -- a new peak (in particular the first value, which exceeds `min_value`): the drawdown restarts at 0
    refine ⟨{ maxDD := s.maxDD, peak := x, minAfterPeak := x }, ?_, ?_⟩
    · simp [drawdownCore, hnew, hnd, pure_eq_ok]
    · have e : ddFold (xs ++ [x]) = (some x, s.maxDD) := by
        rw [ddFold_snoc]
        by_cases h0 : xs = []
        · simp [(hin h0).2, ← hdd, hnd]
        · simp [(hpk h0).1, hnew, ← hdd, hnd]
      exact ⟨by rw [e], hnn, fun _ => ⟨by rw [e], hx, hx, le_refl x, by simpa using hnn⟩, fun h => by simp at h⟩
  · -- no new peak: the model's candidate is (peak − min after peak)/peak, the spec's (peak − x)/peak; they are equal when
    -- x is a new minimum, otherwise both are ≤ maxDD by the last clause of `hpeak`
    have h0 : xs ≠ [] := fun h0 => hnew (by rw [(hin h0).1]; exact lt_trans hmin hx)
    obtain ⟨hfp, hpos, hmpos, hmle, hbd⟩ := hpk h0
    have hxle : x ≤ s.peak := not_lt.mp hnew
    have hsd : (ddFold (xs ++ [x])) =
        (some s.peak, if s.maxDD < (s.peak - x) / s.peak then (s.peak - x) / s.peak else s.maxDD) := by
      rw [ddFold_snoc]; simp only [hfp, hnew, if_false, ← hdd]
    by_cases hlow : x < s.minAfterPeak
    · refine ⟨{ maxDD := if s.maxDD < (s.peak - x) / s.peak then (s.peak - x) / s.peak else s.maxDD,
                peak := s.peak, minAfterPeak := x }, ?_, ?_⟩
      · simp [drawdownCore, hnew, hlow, pure_eq_ok]
      · refine ⟨by rw [hsd], ?_, fun _ => ⟨by rw [hsd], hpos, hx, hxle, ?_⟩, fun h => by simp at h⟩
        · rw [← max_def_lt]; exact le_max_of_le_left hnn
        · rw [← max_def_lt]; exact le_max_right _ _
    · have hge : s.minAfterPeak ≤ x := not_lt.mp hlow
      have hle2 : (s.peak - x) / s.peak ≤ (s.peak - s.minAfterPeak) / s.peak :=
        div_le_div_of_nonneg_right (by linarith) hpos.le
      have hno : ¬ s.maxDD < (s.peak - x) / s.peak := not_lt.mpr (le_trans hle2 hbd)
      have hno2 : ¬ s.maxDD < (s.peak - s.minAfterPeak) / s.peak := not_lt.mpr hbd
      refine ⟨{ maxDD := s.maxDD, peak := s.peak, minAfterPeak := s.minAfterPeak }, ?_, ?_⟩
      · simp [drawdownCore, hnew, hlow, hno2, pure_eq_ok]
      · rw [if_neg hno] at hsd
        exact ⟨by rw [hsd], hnn, fun _ => ⟨by rw [hsd], hpos, hmpos, hmle, hbd⟩, fun h => by simp at h⟩

theorem drawdown_run_ok (hmin : (FloatLike.minValue : α) < 0) (xs : List α) (hx : ∀ x ∈ xs, 0 < x) :
    ∃ s, (drawdownCore (α := α)).run (drawdownCore (α := α)).init xs = .ok s ∧ DrawdownInv s xs := by
  simpa using Core.run_invariant_on drawdownCore (fun y => 0 < y) DrawdownInv
    (fun s pre y hy h => drawdown_step_ok hmin s pre y hy h) _ [] drawdown_init_inv xs hx

omit [IsStrictOrderedRing α] in
theorem drawdown_out_eq [ExactScalar α] (s : DrawdownState α) (xs : List α) (h : DrawdownInv s xs) :
    (drawdownCore (α := α)).out s = .ok (some (Spec.drawdown xs)) := by
  simp [drawdownCore, drawdown_eq_fold, ← h.hdd, ok_bind, pure_eq_ok]
end drawdown

section welfordRolling
variable {α : Type} [Field α]

/-- the state after the history `xs`: the aggregates of all values so far, in closed form (total division: 0 for no values) -/
def welfordRollingSt (xs : List α) : WelfordRollingState α :=
  { mean := sumL xs / (xs.length : α), s := S2 xs - sumL xs * sumL xs / (xs.length : α), n := xs.length }

theorem welfordRolling_mean_st (xs : List α) : (welfordRollingSt xs).mean = Spec.welfordRollingMean xs := by
  show sumL xs / (xs.length : α) = _
  cases xs <;> simp [Spec.welfordRollingMean, Spec.mean]

variable [LinearOrder α] [IsStrictOrderedRing α]

theorem welfordRolling_var_st (xs : List α) : (welfordRollingSt xs).variance = Spec.popVar xs := by
  have hn : (welfordRollingSt xs).n = xs.length := rfl
  have hs : (welfordRollingSt xs).s = S2 xs - sumL xs * sumL xs / (xs.length : α) := rfl
  simp only [WelfordRollingState.variance, Spec.popVar, hn, hs, ← Nat.not_lt, ite_not]
  split
  next h1 => rw [sum_sq_dev_mean xs (List.ne_nil_of_length_pos (by omega))]
  next => rfl

variable [FloatLike α] [Transc α]

/-- the update is the Welford "add" step: `Moments.agg_add` -/
theorem welfordRolling_tracks : (welfordRollingCore (α := α)).Tracks welfordRollingSt where
  init := by
    show welfordRollingSt [] = { mean := nat 0, s := nat 0, n := 0 }
    simp [welfordRollingSt]
  step xs x := by
    obtain ⟨hc, hm, hs⟩ := agg_add _ _ _ xs x
      (show Agg (welfordRollingSt xs).n (welfordRollingSt xs).mean (welfordRollingSt xs).s xs from ⟨rfl, rfl, rfl⟩)
    conv_rhs => rw [welfordRollingSt, ← hm, ← hs, ← hc]
    rfl

variable [ExactScalar α]

theorem welfordRolling_out_st (xs : List α) :
    (welfordRollingCore (α := α)).out (welfordRollingSt xs) = .ok (Spec.welfordRolling xs) := by
  have hn : (welfordRollingSt xs).n = xs.length := rfl
  simp only [welfordRollingCore, Spec.welfordRolling, hn, welfordRolling_var_st]
  cases xs with
  | nil => simp [pure_eq_ok]
  | cons a l => simp [ok_bind, pure_eq_ok]
end welfordRolling

section lnReturn
variable {α : Type} [Field α] [LinearOrder α] [FloatLike α] [Transc α]

def lnReturnSt (xs : List α) : LnReturnState α :=
  { lastVal := (xs.dropLast.getLast?).getD 0, currentVal := (xs.getLast?).getD 0 }

theorem lnReturn_tracks : (lnReturnCore (α := α)).Tracks lnReturnSt :=
  ⟨by simp [lnReturnSt, lnReturnCore], fun xs x => by simp [lnReturnSt, lnReturnCore, pure_eq_ok]⟩

variable [ExactScalar α]

/-- for a stream without zeros (positive prices), LnReturn is ln(x_t / x_{t-1}) from the 2nd value on -/
theorem lnReturn_out_st (xs : List α) (hx : ∀ x ∈ xs, x ≠ 0) :
    (lnReturnCore (α := α)).out (lnReturnSt xs) = .ok (Spec.lnReturn xs) := by
  simp only [lnReturnCore, Spec.lnReturn, lnReturnSt]
  rcases List.eq_nil_or_concat xs with rfl | ⟨ys, y, rfl⟩
  · simp [pure_eq_ok]
  · rcases List.eq_nil_or_concat ys with rfl | ⟨zs, z, rfl⟩
    · simp [pure_eq_ok]
    · have hz : z ≠ 0 := hx z (by simp)
      simp [hz, ok_bind, pure_eq_ok]
end lnReturn

end SF.Rolling
