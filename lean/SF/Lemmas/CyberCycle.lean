import SF.Lemmas.Field
import SF.Lemmas.Index
/- CyberCycle (N ≥ 6): `vals` and `out` hold the last min(t+1, N) inputs / outputs; the smoothing loop rewrites positions
   3..N−1 of `smooth` from the window at every full-window step; the recursion reads the three newest smoothed values and
   the two previous outputs. -/
namespace SF.CC
open SF.Spec

/-! ### `Spec.at'`: a history read at a signed time, `pad` before its start -/
section reading
variable {α : Type}

theorem at_append_left (xs ys : List α) (pad : α) (t : Int) (h : t < xs.length) : at' (xs ++ ys) pad t = at' xs pad t := by
  simp only [at']
  split
  · rfl
  · rw [List.getElem?_append_left (by omega)]

theorem at_append_right (xs ys : List α) (pad : α) (t : Int) (ht : (xs.length : Int) ≤ t) :
    at' (xs ++ ys) pad t = at' ys pad (t - xs.length) := by
  have e : t.toNat = xs.length + (t - (xs.length : Int)).toNat := by omega
  rw [at', at', if_neg (by omega), if_neg (by omega), e, List.getElem?_append_right (by omega)]
  congr 2; omega

theorem at_const_tail (xs : List α) (pad c0 : α) (L : Nat) (t : Int) (h1 : (xs.length : Int) ≤ t) (h2 : t < xs.length + L) :
    at' (xs ++ List.replicate L c0) pad t = c0 := by
  rw [at_append_right xs _ pad t h1, at', if_neg (by omega), List.getElem?_replicate, if_pos (by omega)]; rfl

/-- position i of the window is time |xs| − N + i -/
theorem at_window (N : Nat) (xs : List α) (pad : α) (hx : N ≤ xs.length) (t : Int) (i : Nat)
    (ht : t = (xs.length : Int) - N + i) : at' xs pad t = (lastN N xs)[i]?.getD pad := by
  have e : t.toNat = xs.length - N + i := by omega
  rw [at', if_neg (by omega), e, lastN_getElem?]

theorem at_bound [Lattice α] [AddGroup α] (xs : List α) (pad B : α) (hp : |pad| ≤ B) (hx : ∀ x ∈ xs, |x| ≤ B) (t : Int) :
    |at' xs pad t| ≤ B := by
  unfold at'
  split
  · exact hp
  · cases h : xs[t.toNat]? with
    | none => exact hp
    | some v => exact hx v (List.mem_of_getElem? h)

end reading

variable {α : Type} [Field α]

/-! ### the batch definition -/

/-- `Spec.cyberCycle`'s local `sm`, the 4-tap smoothing (x(t) + 2x(t−1) + 2x(t−2) + x(t−3))/6.  It and the fold step `stepC` are
lifted out of the batch definition word for word, which is why `cyberCycle_unfold` is `cases xs <;> rfl`. -/
def smS (xs : List α) (t : Int) : α :=
  (at' xs (nat 0) t + nat 2 * at' xs (nat 0) (t - 1) + nat 2 * at' xs (nat 0) (t - 2) + at' xs (nat 0) (t - 3)) / nat 6

/-- `Spec.cyberCycle`'s fold step: 0 during the first N − 1 steps, then the recursion on the two newest outputs -/
def stepC (N : Nat) (xs : List α) (acc : List α) (t : Nat) : List α :=
  if t + 1 < N then (nat 0 : α) :: acc
  else
    (sq (nat 1 - dec 5 10 * (nat 2 / (nat N + nat 1))) * (smS xs (t : Int) - nat 2 * smS xs ((t : Int) - 1) + smS xs ((t : Int) - 2))
      + nat 2 * (nat 1 - (nat 2 / (nat N + nat 1))) * acc.headD (nat 0)
      - sq (nat 1 - (nat 2 / (nat N + nat 1))) * acc.tail.headD (nat 0)) :: acc

/-- the outputs c(n−1), …, c(0) after n steps, newest first -/
def C (N : Nat) (xs : List α) (n : Nat) : List α := (List.range n).foldl (stepC N xs) []

theorem cyberCycle_unfold (N : Nat) (xs : List α) : Spec.cyberCycle N xs = (C N xs xs.length).head? := by
  cases xs <;> rfl

theorem C_succ (N : Nat) (xs : List α) (n : Nat) : C N xs (n + 1) = stepC N xs (C N xs n) n := by
  simp only [C, List.range_succ, List.foldl_append, List.foldl_cons, List.foldl_nil]

theorem C_succ_cons (N : Nat) (xs : List α) (n : Nat) : ∃ v, C N xs (n + 1) = v :: C N xs n := by
  rw [C_succ]; unfold stepC; split <;> exact ⟨_, rfl⟩

theorem C_length (N : Nat) (xs : List α) (n : Nat) : (C N xs n).length = n := by
  induction n with
  | zero => rfl
  | succ n ih =>
    obtain ⟨v, hv⟩ := C_succ_cons N xs n
    rw [hv, List.length_cons, ih]

theorem smS_append_left (xs ys : List α) (t : Int) (h : t < xs.length) : smS (xs ++ ys) t = smS xs t := by
  simp only [smS, at_append_left xs ys _ t h, at_append_left xs ys _ (t - 1) (by omega), at_append_left xs ys _ (t - 2) (by omega),
    at_append_left xs ys _ (t - 3) (by omega)]

/-- the first n outputs do not depend on what follows the first n inputs -/
theorem C_prefix (N : Nat) (xs ys : List α) (n : Nat) (h : n ≤ xs.length) : C N (xs ++ ys) n = C N xs n := by
  induction n with
  | zero => rfl
  | succ n ih =>
    rw [C_succ, C_succ, ih (by omega)]
    simp only [stepC, smS_append_left xs ys (n : Int) (by omega), smS_append_left xs ys ((n : Int) - 1) (by omega),
      smS_append_left xs ys ((n : Int) - 2) (by omega)]

theorem smS_common_tail (xs ys t : List α) (hl : xs.length = ys.length) (k : Int) (hk : (xs.length : Int) + 3 ≤ k) :
    smS (xs ++ t) k = smS (ys ++ t) k := by
  unfold smS
  rw [at_append_right xs t _ k (by omega), at_append_right xs t _ (k - 1) (by omega), at_append_right xs t _ (k - 2) (by omega),
    at_append_right xs t _ (k - 3) (by omega), at_append_right ys t _ k (by omega), at_append_right ys t _ (k - 1) (by omega),
    at_append_right ys t _ (k - 2) (by omega), at_append_right ys t _ (k - 3) (by omega), hl]

/-- the 4-tap smoothing of a constant stretch is that constant -/
theorem smS_const_tail [LinearOrder α] [IsStrictOrderedRing α] (xs : List α) (c0 : α) (L : Nat) (j : Int)
    (h1 : (xs.length : Int) + 3 ≤ j) (h2 : j < xs.length + L) : smS (xs ++ List.replicate L c0) j = c0 := by
  unfold smS
  rw [at_const_tail xs _ c0 L j (by omega) h2, at_const_tail xs _ c0 L (j - 1) (by omega) (by omega),
    at_const_tail xs _ c0 L (j - 2) (by omega) (by omega), at_const_tail xs _ c0 L (j - 3) (by omega) (by omega)]
  simp only [nat_eq, Nat.cast_ofNat]
  field_simp; ring

/-! ### the model's loops -/

/-- pure 4-tap value at position i (i ≥ 3, i < length) -/
def tapV (vals : List α) (i : Nat) : α :=
  ((vals[i]?.getD 0) + 2 * (vals[i - 1]?.getD 0) + 2 * (vals[i - 2]?.getD 0) + (vals[i - 3]?.getD 0)) / 6

/-- the smoothed input at the time that sits at position i ≥ 3 of the window is the tap value there -/
theorem smS_window (N : Nat) (xs : List α) (hx : N ≤ xs.length) (t : Int) (i : Nat) (hi : 3 ≤ i)
    (ht : t = (xs.length : Int) - N + i) : smS xs t = tapV (lastN N xs) i := by
  simp only [smS, tapV, at_window N xs _ hx t i ht, at_window N xs _ hx (t - 1) (i - 1) (by omega),
    at_window N xs _ hx (t - 2) (i - 2) (by omega), at_window N xs _ hx (t - 3) (i - 3) (by omega)]
  simp only [nat_eq]; norm_num

theorem ccTap_ok (vals : List α) (i : Nat) (hi : i < vals.length) : ccTap vals i = .ok (tapV vals i) := by
  simp only [ccTap, getIdx_ok vals i 0 hi, getIdx_ok vals (i - 1) 0 (by omega), getIdx_ok vals (i - 2) 0 (by omega),
    getIdx_ok vals (i - 3) 0 (by omega), ok_bind, pure_eq_ok, tapV, nat_eq]
  norm_num

/-- the smoothing loop over positions 3 .. 3+k−1 -/
theorem smooth_loop (vals : List α) (k : Nat) (sm : List α) (hk : 3 + k ≤ vals.length) (hs : 3 + k ≤ sm.length) :
    ∃ sm', (List.range' 3 k).foldlM (fun (sm : List α) i => do let t ← ccTap vals i; pure (sm.set i t)) sm = .ok sm' ∧
      sm'.length = sm.length ∧ (∀ i, 3 ≤ i → i < 3 + k → sm'[i]? = some (tapV vals i)) := by
  induction k with
  | zero => exact ⟨sm, rfl, rfl, fun i h1 h2 => by omega⟩
  | succ k ih =>
    obtain ⟨sm1, h1, hl1, hv1⟩ := ih (by omega) (by omega)
    refine ⟨sm1.set (3 + k) (tapV vals (3 + k)), ?_, by simp [hl1], ?_⟩
    · rw [List.range'_concat, List.foldlM_append, h1, Nat.one_mul]
      simp only [ok_bind, List.foldlM_cons, List.foldlM_nil, ccTap_ok vals (3 + k) (by omega), pure_eq_ok]
    · intro i hi1 hi2
      by_cases he : i = 3 + k
      · subst he; simp [List.getElem?_set_self (by omega : 3 + k < sm1.length)]
      · rw [List.getElem?_set_ne (by omega)]; exact hv1 i hi1 (by omega)

theorem ccSmooth_ok (vals smooth : List α) (N : Nat) (hN : 3 ≤ N) (hv : vals.length = N) (hs : smooth.length = N) :
    ∃ sm', ccSmooth vals smooth = .ok sm' ∧ sm'.length = N ∧ (∀ i, 3 ≤ i → i < N → sm'[i]? = some (tapV vals i)) := by
  obtain ⟨sm', h, hl, hv'⟩ := smooth_loop vals (N - 3) smooth (by omega) (by omega)
  refine ⟨sm', ?_, by omega, fun i h1 h2 => hv' i h1 (by omega)⟩
  simp only [ccSmooth, forRange, hv, hs, Nat.min_self]
  exact h

theorem ccValue_ok (N : Nat) (hN : 6 ≤ N) (sm out : List α) (hsm : sm.length = N) (hout : out.length = N - 1) :
    ccValue N sm out (N - 1) = .ok
      (sq (nat 1 - dec 5 10 * (nat 2 / (nat N + nat 1))) * ((sm[N - 1]?.getD 0) - nat 2 * (sm[N - 2]?.getD 0) + (sm[N - 3]?.getD 0))
        + nat 2 * (nat 1 - (nat 2 / (nat N + nat 1))) * (out[N - 2]?.getD 0)
        - sq (nat 1 - (nat 2 / (nat N + nat 1))) * (out[N - 3]?.getD 0)) := by
  have u1 : usub (N - 1) 1 = .ok (N - 2) := usub_ok (by omega)
  have u2 : usub (N - 1) 2 = .ok (N - 3) := usub_ok (by omega)
  simp only [ccValue, u1, u2, ok_bind, getIdx_ok sm (N - 1) 0 (by omega), getIdx_ok sm (N - 2) 0 (by omega),
    getIdx_ok sm (N - 3) 0 (by omega), getIdx_ok out (N - 2) 0 (by omega), getIdx_ok out (N - 3) 0 (by omega), pure_eq_ok]

/-! ### the view -/

structure Inv (N : Nat) (s : CcState α) (xs : List α) : Prop where
  hv : s.vals = lastN N xs
  ho : s.out = ((C N xs xs.length).take N).reverse
  hs : s.smooth.length = N

variable [FloatLike α]

theorem init_inv (N : Nat) : Inv N (ccCoreU (α := α) N).init [] :=
  ⟨(lastN_nil N).symm, (take_reverse_nil N).symm, List.length_replicate⟩

theorem out_eq (N : Nat) (hN : 6 ≤ N) (s : CcState α) (xs : List α) (h : Inv N s xs) :
    (ccCoreU N).out s = .ok (Spec.cyberCycle N xs) := by
  show pure s.out.getLast? = _
  rw [cyberCycle_unfold, h.ho, List.getLast?_reverse, pure_eq_ok, List.head?_take, if_neg (by omega)]

theorem Inv.size_le {N : Nat} {s : CcState α} {xs : List α} (hi : Inv N s xs) : (ccCoreU (α := α) N).size s ≤ 3 * N := by
  show s.vals.length + s.out.length + s.smooth.length ≤ 3 * N
  have h1 := length_le_of_eq_lastN hi.hv
  have h2 : s.out.length ≤ N := by rw [hi.ho]; simp
  have h3 := hi.hs
  omega

variable [ExactScalar α]

theorem step_ok (N : Nat) (hN : 6 ≤ N) (s : CcState α) (xs : List α) (x : α) (h : Inv N s xs) :
    ∃ s', (ccCoreU N).step s x = .ok s' ∧ Inv N s' (xs ++ [x]) := by
  obtain ⟨hv, ho, hs⟩ := h
  have hN0 : 0 < N := by omega
  set Cn := C N xs xs.length
  have hCl : Cn.length = xs.length := C_length N xs xs.length
  have hvl : s.vals.length = min N xs.length := by rw [hv, lastN_length]
  have hol : s.out.length = min N xs.length := by rw [ho]; simp [hCl]
  have hvt : (if N ≤ s.vals.length then s.vals.tail else s.vals) ++ [x] = lastN N (xs ++ [x]) := by
    rw [hv]; exact lastN_push N hN0 xs x
  -- `out` is trimmed exactly when `vals` is: both hold min N |xs| entries
  have hot : (if N ≤ s.vals.length then s.out.tail else s.out) = (Cn.take (N - 1)).reverse := by
    rw [hvl, ← hol, ho]
    exact take_reverse_trim N hN0 Cn
  have hlx : (xs ++ [x]).length = xs.length + 1 := by rw [List.length_append, List.length_singleton]
  have hCnew : C N (xs ++ [x]) (xs ++ [x]).length = stepC N (xs ++ [x]) Cn xs.length := by
    rw [hlx, C_succ, C_prefix N xs [x] xs.length (le_refl _)]
  simp only [ccCoreU, hvt, hot]
  have hlen' : (lastN N (xs ++ [x])).length = min N (xs.length + 1) := by rw [lastN_length, hlx]
  by_cases hlt : xs.length + 1 < N
  · -- still filling
    have : (lastN N (xs ++ [x])).length < N := by rw [hlen']; omega
    rw [if_pos this]
    refine ⟨_, rfl, rfl, ?_, hs⟩
    show (Cn.take (N - 1)).reverse ++ [nat 0] = _
    rw [hCnew, take_reverse_push N hN0]
    simp only [stepC, if_pos hlt]
  · -- full window: the loop rewrites smooth[3..N−1] from the window, so its three newest entries are the spec's s(t), s(t−1),
    -- s(t−2) (`smS_window`); out[N−2], out[N−3] are the two newest outputs (`take_reverse_getElem?`)
    have hfull : (lastN N (xs ++ [x])).length = N := by rw [hlen']; omega
    have : ¬ (lastN N (xs ++ [x])).length < N := by omega
    rw [if_neg this, hfull]
    have u : usub N 1 = .ok (N - 1) := usub_ok (by omega)
    obtain ⟨sm', hsm, hsml, hsmv⟩ := ccSmooth_ok (lastN N (xs ++ [x])) s.smooth N (by omega) hfull hs
    have houtl : ((Cn.take (N - 1)).reverse).length = N - 1 := by simp [hCl]; omega
    simp only [u, hsm, ok_bind, ccValue_ok N hN sm' _ hsml houtl, assertFinite_exact]
    refine ⟨_, rfl, rfl, ?_, hsml⟩
    show (Cn.take (N - 1)).reverse ++ [_] = _
    rw [hCnew, take_reverse_push N hN0]
    simp only [stepC, if_neg hlt]
    have hx' : N ≤ (xs ++ [x]).length := by omega
    rw [smS_window N (xs ++ [x]) hx' (xs.length : Int) (N - 1) (by omega) (by omega),
      smS_window N (xs ++ [x]) hx' ((xs.length : Int) - 1) (N - 2) (by omega) (by omega),
      smS_window N (xs ++ [x]) hx' ((xs.length : Int) - 2) (N - 3) (by omega) (by omega),
      hsmv (N - 1) (by omega) (by omega), hsmv (N - 2) (by omega) (by omega), hsmv (N - 3) (by omega) (by omega)]
    have hc1 : ((Cn.take (N - 1)).reverse)[N - 2]?.getD 0 = Cn.headD (nat 0) := by
      rw [show N - 2 = N - 1 - 1 - 0 by omega, take_reverse_getElem? Cn (N - 1) 0 (by omega) (by omega),
        List.headD_eq_head?_getD, List.head?_eq_getElem?, nat_eq, Nat.cast_zero]
    have hc2 : ((Cn.take (N - 1)).reverse)[N - 3]?.getD 0 = Cn.tail.headD (nat 0) := by
      rw [show N - 3 = N - 1 - 1 - 1 by omega, take_reverse_getElem? Cn (N - 1) 1 (by omega) (by omega),
        List.headD_eq_head?_getD, List.head?_eq_getElem?, List.getElem?_tail, nat_eq, Nat.cast_zero]
    rw [hc1, hc2]
    simp only [Option.getD_some]

theorem run_ok (N : Nat) (hN : 6 ≤ N) (xs : List α) :
    ∃ s, (ccCoreU (α := α) N).run (ccCoreU (α := α) N).init xs = .ok s ∧ Inv N s xs :=
  Core.run_invariant_init (ccCoreU N) (Inv N) (init_inv N) (step_ok N hN) xs

end SF.CC
