import SF.Lemmas.Field
import SF.Model.Window
/- Cumulative: the running value is the sum of exactly the last N values. -/
namespace SF.Cum
open Spec
variable {α : Type} [Field α] [FloatLike α] [ExactScalar α]

def st (N : Nat) (xs : List α) : CumState α := { q := lastN N xs, out := Spec.cumulative N xs }

theorem tracks (N : Nat) (hN : 0 < N) : (cumCore (α := α) N).Tracks (st N) where
  init := by simp [st, cumCore, Spec.cumulative]
  step xs x := by
    rcases lastN_cases N hN xs with ⟨hlt, hw, hw'⟩ | ⟨old, hle, hw, hlen⟩
    · rcases eq_or_ne xs [] with rfl | hne
      · -- the very first value starts the sum from 0
        simp [cumCore, st, Spec.cumulative, lastN_of_le, hN.ne', Nat.one_le_iff_ne_zero, unwrap_some, pure_eq_ok, ok_bind]
      · simp [cumCore, st, Spec.cumulative, lastN_snoc N hN, hw, hw', Nat.not_le.mpr hlt, hne, unwrap_some, pure_eq_ok, ok_bind]
    · have hne : xs ≠ [] := by rintro rfl; simp at hle; omega
      simp [cumCore, st, Spec.cumulative, lastN_snoc N hN, hw, hlen, hne, popFront_cons, unwrap_some, pure_eq_ok, ok_bind]

end SF.Cum
