import SF.Lemmas.TwoPole
import SF.Lemmas.Linear
/- SuperSmoother and the TrendFlex/ReFlex smoother at ℝ: pole radius a1 = exp(−c/N) < 1 for every N ≥ 1, hence BIBO with a
   length-independent bound and geometric fading memory. -/
namespace SF.SsStable

/-- the pole radius a1 of `Spec.ssCoef N` at ℝ (`ssCoef_form`) -/
noncomputable def ssA (N : Nat) : ℝ := Real.exp (-(1414 / 1000 : ℝ) * (3141592653589793 / 1000000000000000) / N)
/-- the pole radius a1 of `Spec.flexCoef N` at ℝ (`flexCoef_form`) -/
noncomputable def flexA (N : Nat) : ℝ := Real.exp (-(888442402435 / 100000000000 : ℝ) / N)

theorem exp_neg_div_range (c : ℝ) (hc : 0 < c) (N : Nat) (hN : 0 < N) : 0 < Real.exp (-c / N) ∧ Real.exp (-c / N) < 1 := by
  have hNpos : (0 : ℝ) < N := by exact_mod_cast hN
  refine ⟨Real.exp_pos _, ?_⟩
  rw [Real.exp_lt_one_iff]
  exact div_neg_of_neg_of_pos (by linarith) hNpos

theorem ssA_range (N : Nat) (hN : 0 < N) : 0 < ssA N ∧ ssA N < 1 := by
  rw [ssA, neg_mul]
  exact exp_neg_div_range _ (by norm_num) N hN

theorem flexA_range (N : Nat) (hN : 0 < N) : 0 < flexA N ∧ flexA N < 1 :=
  exp_neg_div_range _ (by norm_num) N hN

theorem ssCoef_form (N : Nat) :
    (Spec.ssCoef (α := ℝ) N).b1 = 2 * ssA N * Real.cos (44422 / 10000 / N) ∧ (Spec.ssCoef (α := ℝ) N).c3 = -(ssA N * ssA N) := by
  simp [Spec.ssCoef, ssA]

theorem flexCoef_form (N : Nat) :
    (Spec.flexCoef (α := ℝ) N).b1 = 2 * flexA N * Real.cos (444221201218 / 100000000000 / N) ∧
    (Spec.flexCoef (α := ℝ) N).c3 = -(flexA N * flexA N) := by
  simp [Spec.flexCoef, flexA]

/-- the difference of the two SuperSmoother runs IS the run on the difference stream (linearity), so `superSmoother_fading`
below is a statement about |out(x) − out(y)| -/
theorem diff_is_run_on_diff (N : Nat) (xs ys : List ℝ) (h : xs.length = ys.length) :
    (SS.foldState (Spec.ssCoef (α := ℝ) N) 0 (Linear.lin 1 (-1) xs ys)).1 =
      Linear.lin 1 (-1) (SS.foldState (Spec.ssCoef (α := ℝ) N) 0 xs).1 (SS.foldState (Spec.ssCoef (α := ℝ) N) 0 ys).1 := by
  have := Linear.foldState_lin (Spec.ssCoef (α := ℝ) N) 1 (-1) 0 0 xs ys h
  simp only [mul_zero, add_zero] at this
  rw [this]

/-- **SuperSmoother: geometric fading memory**, on the difference stream d = p1 − p2 (entrywise, over the common length) of two
histories: once d has been followed by one 0, every further 0 multiplies the Lyapunov functional V of the filter's response
to d by ρ = (1 + a1)/2 < 1.  That this response is the difference of the two responses is `diff_is_run_on_diff` (for
histories of equal length); that V dominates its newest value is `TwoPole.abs_head_le_V`. -/
theorem superSmoother_fading (N : Nat) (hN : 0 < N) (p1 p2 : List ℝ) (k : Nat) :
    let d := Linear.lin 1 (-1) p1 p2
    TwoPole.V (TwoPole.pole (ssA N) (44422 / 10000 / N)) (ssA N)
        (SS.foldState (Spec.ssCoef (α := ℝ) N) 0 (d ++ [0] ++ List.replicate k 0))
      ≤ ((1 + ssA N) / 2) ^ k *
        TwoPole.V (TwoPole.pole (ssA N) (44422 / 10000 / N)) (ssA N) (SS.foldState (Spec.ssCoef (α := ℝ) N) 0 (d ++ [0])) := by
  intro d
  have ha := ssA_range N hN
  have hc := ssCoef_form N
  exact TwoPole.zero_tail_decay _ (ssA N) _ ha.1.le ha.2 hc.1 hc.2 0 d k

end SF.SsStable
