import SF.Lemmas.PfeSuffix
import SF.Lemmas.RocSuffix
import SF.Props.C11
import SF.Props.C04
import SF.Props.C05
import SF.Props.C06
import SF.Lemmas.Invariance
/-
  C03 — Finite memory: windowed views forget everything older than the window.
  For two histories of possibly different lengths (each at least K long) that agree on their last K values, the view
  reports the same value after either — whatever preceded, however long or large.  Proved from the characterisations
  of C02, C04, C05, C06 and C11: the reported value is a function of `lastN N xs` (and of "has the window filled"), nothing else.
  Also: BinaryEntropy, NET, CTI (K = N); Rsi and MyRSI (K = N+1; MyRSI unless it is holding on a flat window, the
  exception the statement names); Alma (K = 2N: after 2N values every windowed sample entered with the last weight).
  Roc (K = N+1, unless its base is 0 and it is holding) and PFE over an M-window Sma (K = N+M−1) are at the end of the file.
-/
namespace SF.C03
open SF.Spec

/-- agreement on the last K ≥ 1 values gives the same newest value -/
theorem getLast_eq {β : Type} (K : Nat) (hK : 0 < K) (xs ys : List β) (h : lastN K xs = lastN K ys) :
    xs.getLast? = ys.getLast? := by
  rw [← getLast_lastN K hK xs, h, getLast_lastN K hK ys]

set_option linter.unusedSectionVars false
variable {α : Type} [Field α] [LinearOrder α] [IsStrictOrderedRing α] [FloatLike α] [ExactScalar α]

/-- agreement on the last K ≥ N values gives the same window (= `lastN_eq_of_suffix`) -/
theorem window_eq (N K : Nat) (hK : N ≤ K) (xs ys : List α) (hx : K ≤ xs.length) (hy : K ≤ ys.length)
    (h : lastN K xs = lastN K ys) : lastN N xs = lastN N ys :=
  lastN_eq_of_suffix N K xs ys hK h hx hy

theorem sma_suffix (N : Nat) (hN : 0 < N) (xs ys : List α) (hx : N ≤ xs.length) (hy : N ≤ ys.length)
    (h : lastN N xs = lastN N ys) : (smaCore (α := α) N).outAfter xs = (smaCore (α := α) N).outAfter ys := by
  rw [C02.sma_eq N hN, C02.sma_eq N hN, sma_spec N xs hx, sma_spec N ys hy, h]

theorem cumulative_suffix (N : Nat) (hN : 0 < N) (xs ys : List α) (hx : N ≤ xs.length) (hy : N ≤ ys.length)
    (h : lastN N xs = lastN N ys) : (cumCore (α := α) N).outAfter xs = (cumCore (α := α) N).outAfter ys := by
  rw [C02.cumulative_eq N hN, C02.cumulative_eq N hN]
  have hx0 : xs ≠ [] := List.ne_nil_of_length_pos (by omega)
  have hy0 : ys ≠ [] := List.ne_nil_of_length_pos (by omega)
  simp [Spec.cumulative, hx0, hy0, h]

theorem min_suffix (N : Nat) (hN : 0 < N) (xs ys : List α) (h : lastN N xs = lastN N ys) :
    (minCoreU (α := α) N).outAfter xs = (minCoreU (α := α) N).outAfter ys := by
  rw [C02.min_eq N hN, C02.min_eq N hN]; simp [Spec.wmin, h]

theorem max_suffix (N : Nat) (hN : 0 < N) (xs ys : List α) (h : lastN N xs = lastN N ys) :
    (maxCoreU (α := α) N).outAfter xs = (maxCoreU (α := α) N).outAfter ys := by
  rw [C02.max_eq N hN, C02.max_eq N hN]; simp [Spec.wmax, h]

theorem hln_suffix (N : Nat) (hN : 0 < N) (xs ys : List α) (hx : N ≤ xs.length) (hy : N ≤ ys.length)
    (h : lastN N xs = lastN N ys) : (hlnCore (α := α) N).outAfter xs = (hlnCore (α := α) N).outAfter ys := by
  rw [C02.hln_eq N hN, C02.hln_eq N hN]
  simp only [Spec.hln, h, getLast_eq N hN xs ys h]

theorem cog_suffix (N : Nat) (hN : 0 < N) (xs ys : List α) (h : lastN N xs = lastN N ys) :
    (cogCore (α := α) N).outAfter xs = (cogCore (α := α) N).outAfter ys := by
  rw [C06.cog_eq N hN, C06.cog_eq N hN]; simp only [Spec.cog, h]

section welford
variable [Transc α]
theorem welford_spec_suffix (N : Nat) (xs ys : List α) (hx : N ≤ xs.length) (hy : N ≤ ys.length)
    (h : lastN N xs = lastN N ys) : Spec.welford N xs = Spec.welford N ys := by
  simp only [Spec.welford, h, if_neg (show ¬ xs.length < N - 1 by omega), if_neg (show ¬ ys.length < N - 1 by omega)]

theorem welford_suffix (N : Nat) (hN : 0 < N) (xs ys : List α) (hx : N ≤ xs.length) (hy : N ≤ ys.length)
    (h : lastN N xs = lastN N ys) : (welfordCoreU (α := α) N).outAfter xs = (welfordCoreU (α := α) N).outAfter ys := by
  rw [C02.welford_last_eq N hN, C02.welford_last_eq N hN, welford_spec_suffix N xs ys hx hy h]

theorem vst_suffix (N : Nat) (hN : 0 < N) (xs ys : List α) (hx : N ≤ xs.length) (hy : N ≤ ys.length)
    (h : lastN N xs = lastN N ys) : (vstCoreU (α := α) N).outAfter xs = (vstCoreU (α := α) N).outAfter ys := by
  rw [C02.vst_eq N hN, C02.vst_eq N hN]
  simp only [Spec.vst, welford_spec_suffix N xs ys hx hy h, getLast_eq N hN xs ys h]

theorem vsct_suffix (N : Nat) (hN : 0 < N) (xs ys : List α) (hx : N ≤ xs.length) (hy : N ≤ ys.length)
    (h : lastN N xs = lastN N ys) : (vsctCoreU (α := α) N).outAfter xs = (vsctCoreU (α := α) N).outAfter ys := by
  rw [C02.vsct_eq N hN, C02.vsct_eq N hN]
  simp only [Spec.vsct, Spec.welfordMean, welford_spec_suffix N xs ys hx hy h, h, getLast_eq N hN xs ys h]
end welford

theorem entropy_suffix [Transc α] (N : Nat) (hN : 0 < N) (xs ys : List α) (h : lastN N xs = lastN N ys) :
    (bentCore (α := α) N).outAfter xs = (bentCore (α := α) N).outAfter ys := by
  rw [C02.entropy_eq N hN, C02.entropy_eq N hN]; simp [Spec.entropy, h]

theorem net_suffix (N : Nat) (hN : 0 < N) (xs ys : List α) (h : lastN N xs = lastN N ys) :
    (netCore (α := α) N).outAfter xs = (netCore (α := α) N).outAfter ys := by
  rw [C06.net_eq_kendall N hN, C06.net_eq_kendall N hN]; simp [Spec.net, h]

theorem cti_suffix [Transc α] (N : Nat) (hN : 0 < N) (xs ys : List α) (hx : N ≤ xs.length) (hy : N ≤ ys.length)
    (h : lastN N xs = lastN N ys) : (ctiCore (α := α) N).outAfter xs = (ctiCore (α := α) N).outAfter ys := by
  rw [C06.cti_eq_pearson N hN xs hx, C06.cti_eq_pearson N hN ys hy, h]

/-- Rsi depends only on the last N+1 values (N changes) -/
theorem rsi_suffix (N : Nat) (hN : 0 < N) (xs ys : List α) (hx : N + 1 ≤ xs.length) (hy : N + 1 ≤ ys.length)
    (h : lastN (N + 1) xs = lastN (N + 1) ys) : (rsiCore (α := α) N).outAfter xs = (rsiCore (α := α) N).outAfter ys := by
  rw [C05.rsi_eq N hN, C05.rsi_eq N hN]
  obtain ⟨hg, hl⟩ := Invar.gains_suffix N xs ys hx hy h
  rw [Rsi.rsi_of_le N xs (List.ne_nil_of_length_pos (by omega)) (by omega),
    Rsi.rsi_of_le N ys (List.ne_nil_of_length_pos (by omega)) (by omega), hg, hl]

/-- MyRSI depends only on the last N+1 values, unless it is explicitly holding its previous output (flat window: G+L = 0) -/
theorem myrsi_suffix (N : Nat) (hN : 0 < N) (xs ys : List α) (hx : N + 1 ≤ xs.length) (hy : N + 1 ≤ ys.length)
    (h : lastN (N + 1) xs = lastN (N + 1) ys) (hflat : gains N xs + losses N xs ≠ 0) :
    (myRsiCore (α := α) N).outAfter xs = (myRsiCore (α := α) N).outAfter ys := by
  rw [C05.myrsi_eq N hN, C05.myrsi_eq N hN]
  obtain ⟨hg, hl⟩ := Invar.gains_suffix N xs ys hx hy h
  have hx' : ¬ xs.length < N := by omega
  have hy' : ¬ ys.length < N := by omega
  simp only [Spec.myRsi, hx', hy', if_false]
  have hxne : xs ≠ [] := List.ne_nil_of_length_pos (by omega)
  have hyne : ys ≠ [] := List.ne_nil_of_length_pos (by omega)
  obtain ⟨xi, xl, rfl⟩ := (List.eq_nil_or_concat xs).resolve_left hxne
  obtain ⟨yi, yl, rfl⟩ := (List.eq_nil_or_concat ys).resolve_left hyne
  simp only [List.concat_eq_append] at *
  rw [MyRsi.myRsiHold_snoc, MyRsi.myRsiHold_snoc, if_neg hflat, if_neg (by rw [← hg, ← hl]; exact hflat), hg, hl]

/-- Alma: after 2N values every sample in the window entered with the last weight; the output depends on the window only -/
theorem alma_suffix [Transc α] (N : Nat) (hN : 0 < N) (sigma offset : α) (xs ys : List α) (hx : 2 * N ≤ xs.length) (hy : 2 * N ≤ ys.length)
    (h : lastN N xs = lastN N ys) :
    (almaCore (α := α) N sigma offset).outAfter xs = (almaCore (α := α) N sigma offset).outAfter ys := by
  rw [C04.alma_eq N hN, C04.alma_eq N hN]
  have hxne : xs ≠ [] := List.ne_nil_of_length_pos (by omega)
  have hyne : ys ≠ [] := List.ne_nil_of_length_pos (by omega)
  have hl : (lastN N ys).length = N := by rw [lastN_length]; exact Nat.min_eq_left (by omega)
  have kx : ∀ j, min (xs.length - (lastN N ys).length + j) (N - 1) = N - 1 := by intro j; rw [hl]; omega
  have ky : ∀ j, min (ys.length - (lastN N ys).length + j) (N - 1) = N - 1 := by intro j; rw [hl]; omega
  simp only [Spec.alma, hxne, hyne, List.isEmpty_iff, if_false, h, kx, ky]

/-- the stated form "two histories with distinct prefixes and a common suffix": `p ++ w` and `p' ++ w` -/
theorem sma_forgets_prefix (N : Nat) (hN : 0 < N) (p p' w : List α) (hw : N ≤ w.length) :
    (smaCore (α := α) N).outAfter (p ++ w) = (smaCore (α := α) N).outAfter (p' ++ w) := by
  exact sma_suffix N hN _ _ (by simp; omega) (by simp; omega) (by rw [lastN_append_of_le N p w hw, lastN_append_of_le N p' w hw])

section pfe_roc
variable [Transc α]
/-- **PFE over an M-window simple moving average is a function of the last N + M − 1 values** (spec level; the state machine
equals the spec by C11 `pfe_sma_eq`) -/
theorem pfe_sma_suffix (N M' : Nat) (hN : 3 ≤ N) (hM : 1 ≤ M') (xs ys : List α)
    (hx : N + M' - 1 ≤ xs.length) (hy : N + M' - 1 ≤ ys.length) (h : lastN (N + M' - 1) xs = lastN (N + M' - 1) ys) :
    Spec.pfe N (Spec.sma M') xs = Spec.pfe N (Spec.sma M') ys := PfeSuffix.pfe_sma_suffix N M' hN hM xs ys hx hy h

/-- … and so the view: two histories that agree on their last N + M − 1 values give the same PFE output -/
theorem pfe_sma_view_suffix (N M' : Nat) (hN : 3 ≤ N) (hM : 1 ≤ M') (xs ys : List α)
    (hx : N + M' - 1 ≤ xs.length) (hy : N + M' - 1 ≤ ys.length) (h : lastN (N + M' - 1) xs = lastN (N + M' - 1) ys) :
    (pfeCoreU N (overEcho (smaCore (α := α) M'))).outAfter xs = (pfeCoreU N (overEcho (smaCore (α := α) M'))).outAfter ys := by
  rw [C11.pfe_sma_eq N M' hN hM, C11.pfe_sma_eq N M' hN hM, PfeSuffix.pfe_sma_suffix N M' hN hM xs ys hx hy h]

/-- **Roc forgets everything older than N + 1 values, unless its base x(t−N) is 0** — then it is explicitly holding its
previous output, the one exception the property names (spec level; the state machine equals the spec by `C02.roc_eq`) -/
theorem roc_suffix (N : Nat) (xs ys : List α) (hx : N + 1 ≤ xs.length) (hy : N + 1 ≤ ys.length)
    (h : lastN (N + 1) xs = lastN (N + 1) ys) (hbase : (lastN (N + 1) xs).headD 0 ≠ 0) :
    Spec.roc N xs = Spec.roc N ys := RocSuffix.roc_suffix N xs ys hx hy h hbase
end pfe_roc

end SF.C03

namespace SF.C03.Example
open SF.Spec
/-- non-vacuity: two concrete histories of different lengths with a common 3-suffix -/
example : lastN 3 ([100, 200, 1, 2, 3] : List Int) = lastN 3 [7, 1, 2, 3] := by decide
end SF.C03.Example
