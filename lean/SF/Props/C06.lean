import SF.Lemmas.CtiAffine
import SF.Lemmas.SpecFacts
import SF.Lemmas.Real
import SF.Lemmas.Cog
import SF.Lemmas.Cti
import SF.Lemmas.Net
import SF.Lemmas.Invariance
/-
  C06 — Trend indicators are true correlation measures of the window.
  `Spec.kendall`, `Spec.pearsonIdx`, `Spec.cog` ARE the statement's definitions (all n(n−1)/2 pairs with ties
  contributing 0; Pearson against the time index with 0 when a variance is 0; the centre-of-gravity formula).
  Proved here on those definitions: NET = +1 / −1 on strictly increasing / decreasing windows, sign flip under negation,
  dependence on the order only (invariance under every strictly increasing map), CoG = 0 on a constant non-zero window.
  Known finding K1: "CTI = +1 on ANY strictly increasing window" contradicts "CTI = Pearson"; `cti_monotone_not_one`
  is the machine-checked witness (window 1, 2, 4).  `cog_eq`, `cti_eq_pearson`, `net_eq_kendall`: the three state machines
  report these definitions (CTI on a full window).
-/
namespace SF.C06
open Spec
variable {α : Type} [Field α] [LinearOrder α] [IsStrictOrderedRing α]

/-- **CenterOfGravity's state machine equals the statement's formula** (n+1)/2 − Σ_k k·x_(t−k+1) / Σ_k x_(t−k+1), k = 1 newest,
over exactly the values currently in the window (all values so far before it is full), 0 when the denominator is 0;
every N ≥ 1, every history, every step -/
theorem cog_eq [FloatLike α] [ExactScalar α] (N : Nat) (hN : 0 < N) (xs : List α) :
    (cogCore (α := α) N).outAfter xs = .ok (Spec.cog N xs) := (Cog.tracks N hN).outAfter xs

set_option linter.unusedSectionVars false in
/-- **On a full window CorrelationTrendIndicator equals the Pearson correlation between the N windowed values and their
time index 0..N−1 (0 when either variance is 0)**: the enumerate-loop's five running sums are Σx, Σk, Σx², Σxk, Σk² of
exactly the window; every N ≥ 1, every history with at least N values -/
theorem cti_eq_pearson [FloatLike α] [ExactScalar α] [Transc α] (N : Nat) (hN : 0 < N) (xs : List α) (hx : N ≤ xs.length) :
    (ctiCore (α := α) N).outAfter xs = .ok (some (pearsonIdx (lastN N xs))) := by
  have hlen : (lastN N xs).length = N := by rw [lastN_length, Nat.min_eq_left hx]
  rw [(Cti.tracks N hN).outAfter, Cti.pearson_eq]
  simp only [ctiCore, hlen]
  split
  · simp
  · rfl

/-- **NoiseEliminationTechnology equals Kendall's tau between values and time over all n(n−1)/2 pairs of the values currently
in its window, ties contributing 0**: the 1-based double loop visits every pair exactly once; every N ≥ 1, every history -/
theorem net_eq_kendall [FloatLike α] [ExactScalar α] (N : Nat) (hN : 0 < N) (xs : List α) :
    (netCore (α := α) N).outAfter xs = .ok (Spec.net N xs) :=
  (Net.tracks N hN).outAfter xs

/-- the loop itself, for any window content: its numerator is Kendall's numerator Σ_{i<j} sgn0(w_j − w_i) -/
theorem net_loop_eq [FloatLike α] [ExactScalar α] (q : List α) : netNum q = .ok (kendallNum q) := Net.netNum_eq q

/-- negating the window negates the Kendall numerator (hence NET flips sign) -/
theorem kendallNum_neg (w : List α) : kendallNum (w.map fun x => -x) = -kendallNum w := by
  simpa using Invar.kendallNum_map (fun x : α => -x) (-1) (fun x y => by rw [← neg_sub', sgn0_neg, neg_one_mul]) w

theorem kendall_neg (w : List α) : kendall (w.map fun x => -x) = -kendall w := by
  simp only [kendall, kendallNum_neg, List.length_map, neg_div]

/-- NET depends only on the order of the values: any strictly increasing map leaves the Kendall numerator unchanged -/
theorem kendallNum_order_only (f : α → α) (hf : StrictMono f) (w : List α) : kendallNum (w.map f) = kendallNum w := by
  simpa using Invar.kendallNum_map f 1 (fun x y => by rw [one_mul, sgn0_mono f hf]) w

theorem kendall_order_only (f : α → α) (hf : StrictMono f) (w : List α) : kendall (w.map f) = kendall w := by
  simp only [kendall, kendallNum_order_only f hf, List.length_map]

/-- on a strictly increasing window every one of the n(n−1)/2 pairs is concordant -/
theorem kendallNum_increasing (w : List α) (h : w.Pairwise (· < ·)) :
    kendallNum w = ((w.length * (w.length - 1) / 2 : Nat) : α) := by
  induction w with
  | nil => simp [kendallNum]
  | cons x r ih =>
    rw [List.pairwise_cons] at h
    simp only [kendallNum, ih h.2, List.length_cons]
    have hs : sumL (r.map fun y => sgn0 (y - x)) = (r.length : α) := by
      have : ∀ y ∈ r, sgn0 (y - x) = 1 := fun y hy => sgn0_of_pos _ (sub_pos.mpr (h.1 y hy))
      rw [List.map_congr_left this, List.map_const', sumL_const, mul_one]
    -- n + n(n−1)/2 = (n+1)n/2
    rw [hs, ← Nat.cast_add, Nat.add_comm, ← Nat.triangle_succ]

/-- NET (Kendall's tau) is +1 on any strictly increasing window of at least two values … -/
theorem kendall_increasing (w : List α) (h : w.Pairwise (· < ·)) (hn : 2 ≤ w.length) : kendall w = 1 := by
  simp only [kendall, kendallNum_increasing w h, nat_eq]
  have hpos : 0 < w.length * (w.length - 1) := Nat.mul_pos (by omega) (by omega)
  rw [Nat.cast_div (Nat.even_mul_pred_self w.length).two_dvd two_ne_zero, Nat.cast_ofNat]
  exact div_self (div_ne_zero (Nat.cast_ne_zero.mpr hpos.ne') two_ne_zero)

/-- … and −1 on any strictly decreasing one -/
theorem kendall_decreasing (w : List α) (h : w.Pairwise (· > ·)) (hn : 2 ≤ w.length) : kendall w = -1 := by
  have h' : (w.map fun x => -x).Pairwise (· < ·) := by
    rw [List.pairwise_map]; exact h.imp (fun hab => neg_lt_neg hab)
  have := kendall_increasing _ h' (by simpa using hn)
  rw [kendall_neg] at this
  linarith

/-- CoG is 0 on a constant non-zero window: Σ k·c / Σ c = (n+1)/2 -/
theorem cog_const (N : Nat) (hN : 0 < N) (c : α) (hc : c ≠ 0) (L : Nat) (hL : 0 < L) :
    Spec.cog N (List.replicate L c) = some 0 := by
  have hn : ((min N L : Nat) : α) ≠ 0 := by exact_mod_cast (by omega : min N L ≠ 0)
  rw [Cog.spec_eq_wsum, lastN_replicate, if_neg (by simp; omega), sumL_const, Cog.wsum_replicate, List.length_replicate,
    if_neg (mul_ne_zero hn hc)]
  congr 1
  field_simp
  ring

end SF.C06

namespace SF.C06.K1
open Spec
/-- **K1 (negation witness).** Pearson correlation of the strictly increasing, non-affine window 1, 2, 4 with its time
index: the quantity under the root is N·Sxy − Sx·Sy = 9, (N·Sxx − Sx²)(N·Syy − Sy²) = 14·6 = 84, and 9² = 81 ≠ 84, so the
correlation 9/√84 is not 1.  Hence "CTI = +1 on any strictly increasing window" cannot hold together with
"CTI = Pearson correlation"; it holds on affine windows. -/
theorem cti_monotone_not_one : pearsonIdx ([1, 2, 4] : List ℝ) ≠ 1 := by
  have h : pearsonIdx ([1, 2, 4] : List ℝ) = 9 / Real.sqrt 84 := by
    simp only [pearsonIdx, List.length_cons, List.length_nil, List.range, List.range.loop, List.map_cons, List.map_nil,
      sumL_cons, sumL_nil, List.zip_cons_cons, List.zip_nil_right, nat_eq, sq_eq, transc_sqrt_real]
    norm_num
  rw [h]
  intro h1
  have hpos : (0 : ℝ) < Real.sqrt 84 := Real.sqrt_pos.mpr (by norm_num)
  rw [div_eq_one_iff_eq hpos.ne'] at h1
  have : Real.sqrt 84 ^ 2 = 84 := Real.sq_sqrt (by norm_num)
  rw [← h1] at this
  norm_num at this
end SF.C06.K1

namespace SF.C06.Real
/-- **CTI is +1 on every increasing AFFINE window and −1 on every decreasing affine one**, for every N ≥ 2 and whatever
preceded — the provable part of the property's last sentence (on a monotone but non-affine window it is not ±1: `K1`) -/
theorem cti_affine_window (N : Nat) (hN : 2 ≤ N) (a b : ℝ) (ha : a ≠ 0) (pre : List ℝ) :
    Spec.cti N (pre ++ (CtiAffine.ks N).map fun x => a * x + b) = some (if 0 < a then 1 else -1) :=
  CtiAffine.cti_affine_window N hN a b ha pre
/-- the time index itself: k = 0, 1, …, n−1 -/
theorem ks_eq (n : Nat) : CtiAffine.ks n = (List.range n).map fun k => ((k : ℕ) : ℝ) := rfl
end SF.C06.Real
