import SF.Props.C02
import SF.Lemmas.Ema
import SF.Lemmas.SpecFacts
import SF.Lemmas.Alma
import SF.Lemmas.AffineMoments
import SF.Lemmas.Stable
/-
  C04 — Moving averages are genuine averages of their window.
  Sma and Ema (Alma: see the end of the file) in exact arithmetic: interval, constants, monotonicity, affine
  equivariance — stated on the batch definitions and transported to the state machines by the characterisations
  `C02.sma_eq` / `ema_eq`.  Ema's recursion holds for every input including zeros and sign changes.
-/
namespace SF.C04
open Spec
set_option linter.unusedSectionVars false
variable {α : Type} [Field α] [LinearOrder α] [IsStrictOrderedRing α] [FloatLike α] [ExactScalar α]

/-! ### Ema = its recursion -/
/-- Ema follows e_0 = x_0, e_t = w·x_t + (1−w)·e_{t−1}, w = alpha/(N+1), for EVERY input (zeros, sign changes),
reported from the N-th value on -/
theorem ema_eq (N : Nat) (hN : 0 < N) (alpha : α) (xs : List α) :
    (emaCore (α := α) N alpha).outAfter xs = .ok (Spec.ema N alpha xs) := Ema.outAfter_eq N hN alpha xs

theorem emaRec_one (w x0 : α) : emaRec w [x0] = some x0 := rfl
theorem emaRec_step (w : α) (xs : List α) (x e : α) (h : emaRec w xs = some e) :
    emaRec w (xs ++ [x]) = some (w * x + (1 - w) * e) := Ema.emaRec_snoc w xs x e h

/-- the default weight 2/(N+1) lies in (0, 1] -/
theorem default_weight (N : Nat) (hN : 0 < N) : 0 < (2 : α) / ((N : α) + 1) ∧ (2 : α) / ((N : α) + 1) ≤ 1 := by
  have h := Stable.one_sub_two_div_succ (α := α) N hN
  exact ⟨sub_lt_self_iff 1 |>.mp h.2, sub_nonneg.mp h.1⟩

/-- Sma never leaves the closed interval spanned by the N values it averages -/
theorem sma_interval (N : Nat) (hN : 0 < N) (xs : List α) (hx : N ≤ xs.length) (lo hi : α)
    (hlo : ∀ x ∈ lastN N xs, lo ≤ x) (hhi : ∀ x ∈ lastN N xs, x ≤ hi) :
    ∃ v, Spec.sma N xs = some v ∧ lo ≤ v ∧ v ≤ hi := by
  have hne : lastN N xs ≠ [] := (lastN_ne_nil hN).mpr (by omega)
  have hlen : ((lastN N xs).length : α) = (N : α) := by rw [lastN_length, Nat.min_eq_left hx]
  have := mean_mem_Icc (lastN N xs) hne lo hi hlo hhi
  rw [hlen] at this
  exact ⟨_, sma_spec N xs hx, this.1, this.2⟩

/-- Sma is monotone: raising any input never lowers the output -/
theorem sma_mono (N : Nat) (hN : 0 < N) (xs ys : List α) (h : List.Forall₂ (· ≤ ·) xs ys) (hx : N ≤ xs.length) :
    ∃ u v, Spec.sma N xs = some u ∧ Spec.sma N ys = some v ∧ u ≤ v := by
  have hy : N ≤ ys.length := by rw [← h.length_eq]; exact hx
  refine ⟨_, _, sma_spec N xs hx, sma_spec N ys hy, ?_⟩
  have hp : (0 : α) < (N : α) := by exact_mod_cast hN
  exact div_le_div_of_nonneg_right (sumL_mono _ _ (lastN_forall₂ N xs ys h)) hp.le

/-- Sma commutes with x ↦ a·x + b -/
theorem sma_affine (N : Nat) (hN : 0 < N) (a b : α) (xs : List α) :
    Spec.sma N (xs.map fun x => a * x + b) = (Spec.sma N xs).map fun v => a * v + b := by
  by_cases hx : xs.length < N
  · simp [Spec.sma, hx]
  · have hne : lastN N xs ≠ [] := (lastN_ne_nil hN).mpr (by omega)
    simpa [Spec.sma, hx, lastN_map, mean] using Inv2.mean_affine a b _ hne

/-! ### Ema: the recursion is a convex combination when 0 ≤ w ≤ 1 -/
/-- Whatever relation `P` between two averages one step of the recursion preserves (given `S` between the two new values) is
preserved by the whole recursion: the interval, constant, affine and monotonicity facts below are four choices of `S`, `P`. -/
theorem emaRec_rel (w : α) (S P : α → α → Prop)
    (hP : ∀ e e' x y, P e e' → S x y → P (w * x + (nat 1 - w) * e) (w * y + (nat 1 - w) * e'))
    (hSP : ∀ x y, S x y → P x y) {xs ys : List α} (h : List.Forall₂ S xs ys) (u v : α)
    (hu : emaRec w xs = some u) (hv : emaRec w ys = some v) : P u v := by
  cases h with
  | nil => simp [emaRec] at hu
  | cons h0 hr =>
    simp only [emaRec, Option.some.injEq] at hu hv
    subst hu hv
    exact List.rel_foldl (R := S) (P := P) (fun _ _ he _ _ hx => hP _ _ _ _ he hx) (hSP _ _ h0) hr

/-- one step is monotone in the new value and in the old average, and reproduces a constant -/
theorem emaStep_mono (w : α) (hw0 : 0 ≤ w) (hw1 : w ≤ 1) {x y e e' : α} (hx : x ≤ y) (he : e ≤ e') :
    w * x + (nat 1 - w) * e ≤ w * y + (nat 1 - w) * e' := by
  simp only [nat_eq, Nat.cast_one]
  exact add_le_add (mul_le_mul_of_nonneg_left hx hw0) (mul_le_mul_of_nonneg_left he (sub_nonneg.mpr hw1))

theorem emaStep_const (w c : α) : w * c + (nat 1 - w) * c = c := by
  simp only [nat_eq, Nat.cast_one]; ring

theorem emaRec_interval (w : α) (hw0 : 0 ≤ w) (hw1 : w ≤ 1) (xs : List α) (lo hi : α)
    (hlo : ∀ x ∈ xs, lo ≤ x) (hhi : ∀ x ∈ xs, x ≤ hi) (v : α) (h : emaRec w xs = some v) : lo ≤ v ∧ v ≤ hi :=
  emaRec_rel w (fun x _ => lo ≤ x ∧ x ≤ hi) (fun e _ => lo ≤ e ∧ e ≤ hi)
    (fun _ _ _ _ he hx => ⟨(emaStep_const w lo).symm.trans_le (emaStep_mono w hw0 hw1 hx.1 he.1),
      (emaStep_mono w hw0 hw1 hx.2 he.2).trans_eq (emaStep_const w hi)⟩)
    (fun _ _ h => h) (List.forall₂_same.mpr fun x hx => ⟨hlo x hx, hhi x hx⟩) v v h h

/-- Ema (default alpha) never leaves the interval spanned by ALL values so far -/
theorem ema_interval (N : Nat) (hN : 0 < N) (xs : List α) (lo hi : α)
    (hlo : ∀ x ∈ xs, lo ≤ x) (hhi : ∀ x ∈ xs, x ≤ hi) (v : α) (h : Spec.ema N 2 xs = some v) : lo ≤ v ∧ v ≤ hi :=
  emaRec_interval _ (default_weight N hN).1.le (default_weight N hN).2 xs lo hi hlo hhi v (Ema.emaRec_of_ema h)

theorem emaRec_const (w c : α) (L : Nat) : emaRec w (List.replicate (L + 1) c) = some c := by
  obtain ⟨v, hv⟩ : ∃ v, emaRec w (List.replicate (L + 1) c) = some v := ⟨_, rfl⟩
  rw [hv, emaRec_rel w (fun x _ => x = c) (fun e _ => e = c) (fun _ _ _ _ he hx => by rw [he, hx, emaStep_const])
    (fun _ _ h => h) (List.forall₂_same.mpr fun _ hx => List.eq_of_mem_replicate hx) v v hv hv]

theorem emaRec_affine (w a b : α) (xs : List α) :
    emaRec w (xs.map fun x => a * x + b) = (emaRec w xs).map fun v => a * v + b := by
  cases xs with
  | nil => rfl
  | cons x0 r =>
    obtain ⟨u, hu⟩ : ∃ u, emaRec w (x0 :: r) = some u := ⟨_, rfl⟩
    obtain ⟨v, hv⟩ : ∃ v, emaRec w ((x0 :: r).map fun x => a * x + b) = some v := ⟨_, rfl⟩
    rw [hv, hu, Option.map_some, emaRec_rel w (fun x y => y = a * x + b) (fun e e' => e' = a * e + b)
      (fun e e' x y he hx => by subst he hx; simp only [nat_eq, Nat.cast_one]; ring) (fun _ _ h => h)
      (List.forall₂_map_right_iff.mpr (List.forall₂_same.mpr fun _ _ => rfl)) u v hu hv]

/-- Ema commutes with x ↦ a·x + b -/
theorem ema_affine (N : Nat) (alpha a b : α) (xs : List α) :
    Spec.ema N alpha (xs.map fun x => a * x + b) = (Spec.ema N alpha xs).map fun v => a * v + b := by
  simp only [Spec.ema, List.length_map]
  split
  · simp
  · exact emaRec_affine _ a b xs

theorem emaRec_mono (w : α) (hw0 : 0 ≤ w) (hw1 : w ≤ 1) (xs ys : List α) (h : List.Forall₂ (· ≤ ·) xs ys)
    (u v : α) (hu : emaRec w xs = some u) (hv : emaRec w ys = some v) : u ≤ v :=
  emaRec_rel w (· ≤ ·) (· ≤ ·) (fun _ _ _ _ he hx => emaStep_mono w hw0 hw1 hx he) (fun _ _ h => h) h u v hu hv

/-- Ema (default alpha) is monotone -/
theorem ema_mono (N : Nat) (hN : 0 < N) (xs ys : List α) (h : List.Forall₂ (· ≤ ·) xs ys)
    (u v : α) (hu : Spec.ema N 2 xs = some u) (hv : Spec.ema N 2 ys = some v) : u ≤ v :=
  emaRec_mono _ (default_weight N hN).1.le (default_weight N hN).2 xs ys h u v (Ema.emaRec_of_ema hu) (Ema.emaRec_of_ema hv)

section alma
variable [Transc α]
/-- **Alma is the normalised Gaussian-kernel weighted mean of its window**: Σ gᵢxᵢ / Σ gᵢ over exactly the last N values
with gᵢ = exp(−(kᵢ − m)²/(2s²)), centre m = offset·(N+1), width s = N/σ, kernel position kᵢ = min(i, N−1) of the sample
with absolute index i (a sample keeps the weight it was given when it entered) — for all admissible σ, offset, every N ≥ 1
and every history -/
theorem alma_eq (N : Nat) (hN : 0 < N) (sigma offset : α) (xs : List α) :
    (almaCore (α := α) N sigma offset).outAfter xs = .ok (Spec.alma N sigma offset xs) := by
  obtain ⟨s, hs, hi⟩ := Alma.run_ok N hN sigma offset xs
  rw [Core.outAfter, hs]
  show (pure s.qOut.getLast? : M _) = _
  rw [hi.hout, pure_eq_ok]
  by_cases hx : xs = []
  · subst hx; simp [Spec.alma]
  · rw [if_neg hx, Alma.spec_eq_wmean N sigma offset xs hx, hi.hsum, hi.hcum, hi.hw, hi.hq]
    simp only [nat_eq, Nat.cast_one]
end alma

/-- any normalised mean with POSITIVE weights lies between the bounds of its values (with the next three theorems: such a
mean is a genuine average) -/
theorem wmean_interval (gs xs : List α) (hlen : gs.length = xs.length) (hp : Alma.Pos gs) (hne : gs ≠ []) (lo hi : α)
    (hlo : ∀ x ∈ xs, lo ≤ x) (hhi : ∀ x ∈ xs, x ≤ hi) :
    lo ≤ Alma.dot gs xs / sumL gs ∧ Alma.dot gs xs / sumL gs ≤ hi := by
  have := Alma.dot_bounds gs xs hlen hp lo hi hlo hhi
  exact div_mem_Icc (sumL_pos gs hne hp) this.1 this.2
theorem wmean_const (gs : List α) (hp : Alma.Pos gs) (hne : gs ≠ []) (c : α) :
    Alma.dot gs (List.replicate gs.length c) / sumL gs = c := by
  have hs := sumL_pos gs hne hp
  rw [Alma.dot_const]; field_simp
theorem wmean_mono (gs xs ys : List α) (hp : Alma.Pos gs) (hne : gs ≠ []) (h : List.Forall₂ (· ≤ ·) xs ys) :
    Alma.dot gs xs / sumL gs ≤ Alma.dot gs ys / sumL gs :=
  div_le_div_of_nonneg_right (Alma.dot_mono gs xs ys hp h) (sumL_pos gs hne hp).le
theorem wmean_affine (gs xs : List α) (a b : α) (hlen : gs.length = xs.length) (hp : Alma.Pos gs) (hne : gs ≠ []) :
    Alma.dot gs (xs.map fun x => a * x + b) / sumL gs = a * (Alma.dot gs xs / sumL gs) + b := by
  have hs := sumL_pos gs hne hp
  rw [Alma.dot_affine gs xs a b hlen]; field_simp

end SF.C04

namespace SF.C04.Real
open Spec
/-- at ℝ the Gaussian weights are positive, so the four facts above apply to Alma's weights -/
theorem gauss_pos (m s : ℝ) (k : Nat) : 0 < gauss m s k := by
  simp only [gauss, transc_exp_real]; exact Real.exp_pos _
theorem alma_weights_pos (N : Nat) (m s : ℝ) (len : Nat) : Alma.Pos (Alma.W N m s len) := by
  intro g hg
  simp only [Alma.W, List.mem_map] at hg
  obtain ⟨i, _, rfl⟩ := hg
  exact gauss_pos m s _

/-! ### Alma at ℝ: the four "genuine average" facts for the view's own definition -/

/-- the Gaussian weights Alma attaches to the (at most N) values of its window after `len` values were delivered -/
noncomputable def almaWeights (N : Nat) (sigma offset : ℝ) (len : Nat) : List ℝ :=
  (List.range' 0 (min N len)).map fun j =>
    gauss (offset * (nat N + nat 1)) (nat N / sigma) (min (len - min N len + j) (N - 1))

theorem almaWeights_length (N : Nat) (sigma offset : ℝ) (len : Nat) : (almaWeights N sigma offset len).length = min N len := by
  rw [almaWeights, List.length_map, List.length_range']

/-- they are the window of the weights `Alma.W` of all samples so far -/
theorem almaWeights_eq (N : Nat) (sigma offset : ℝ) (len : Nat) :
    almaWeights N sigma offset len = lastN N (Alma.W N (offset * (nat N + nat 1)) (nat N / sigma) len) :=
  (Alma.lastN_W N _ _ len).symm

theorem almaWeights_pos (N : Nat) (sigma offset : ℝ) (len : Nat) : Alma.Pos (almaWeights N sigma offset len) :=
  fun g hg => alma_weights_pos N _ _ len g (List.mem_of_mem_drop (almaWeights_eq N sigma offset len ▸ hg))

/-- **Alma is the normalised mean of its window with these positive weights** (they depend on N, σ, offset and on HOW MANY
values were delivered, never on the values) -/
theorem alma_eq_wmean (N : Nat) (sigma offset : ℝ) (xs : List ℝ) (hx : xs ≠ []) :
    Spec.alma N sigma offset xs =
      some (Alma.dot (almaWeights N sigma offset xs.length) (lastN N xs) / sumL (almaWeights N sigma offset xs.length)) := by
  rw [Alma.spec_eq_wmean N sigma offset xs hx, almaWeights_eq]

theorem almaWeights_ne_nil (N : Nat) (hN : 0 < N) (sigma offset : ℝ) (len : Nat) (hl : 0 < len) :
    almaWeights N sigma offset len ≠ [] := by
  rw [almaWeights_eq]
  exact (lastN_ne_nil hN).mpr (by rw [Alma.W_length]; omega)

/-- Alma reproduces a constant input exactly -/
theorem alma_const (N : Nat) (hN : 0 < N) (sigma offset c : ℝ) (L : Nat) (hL : 0 < L) :
    Spec.alma N sigma offset (List.replicate L c) = some c := by
  have hne : List.replicate L c ≠ [] := List.ne_nil_of_length_pos (by simpa using hL)
  rw [alma_eq_wmean N sigma offset _ hne]
  have hw : lastN N (List.replicate L c) = List.replicate (almaWeights N sigma offset (List.replicate L c).length).length c := by
    rw [almaWeights_length, List.length_replicate, lastN_replicate]
  rw [hw, wmean_const _ (almaWeights_pos N sigma offset _) (almaWeights_ne_nil N hN sigma offset _ (by simpa using hL))]

/-- Alma commutes with x ↦ a·x + b (any a, b) -/
theorem alma_affine (N : Nat) (hN : 0 < N) (sigma offset a b : ℝ) (xs : List ℝ) :
    Spec.alma N sigma offset (xs.map fun x => a * x + b) = (Spec.alma N sigma offset xs).map fun v => a * v + b := by
  by_cases hx : xs = []
  · subst hx; simp [Spec.alma]
  · have hx' : (xs.map fun x => a * x + b) ≠ [] := by simpa using hx
    rw [alma_eq_wmean N sigma offset _ hx', alma_eq_wmean N sigma offset _ hx]
    simp only [List.length_map, Option.map_some, Option.some.injEq]
    rw [lastN_map]
    have hlen : (almaWeights N sigma offset xs.length).length = (lastN N xs).length := by
      rw [almaWeights_length, lastN_length]
    exact wmean_affine _ _ a b hlen (almaWeights_pos N sigma offset _)
      (almaWeights_ne_nil N hN sigma offset _ (List.length_pos_of_ne_nil hx))

/-- Alma is monotone: raising any input never lowers the output -/
theorem alma_mono (N : Nat) (hN : 0 < N) (sigma offset : ℝ) (xs ys : List ℝ) (h : List.Forall₂ (· ≤ ·) xs ys) (hx : xs ≠ []) :
    ∃ u v, Spec.alma N sigma offset xs = some u ∧ Spec.alma N sigma offset ys = some v ∧ u ≤ v := by
  have hy : ys ≠ [] := by
    intro e; subst e
    have := h.length_eq; simp at this; exact hx this
  refine ⟨_, _, alma_eq_wmean N sigma offset xs hx, alma_eq_wmean N sigma offset ys hy, ?_⟩
  rw [← h.length_eq]
  exact wmean_mono _ _ _ (almaWeights_pos N sigma offset _)
    (almaWeights_ne_nil N hN sigma offset _ (List.length_pos_of_ne_nil hx)) (lastN_forall₂ N xs ys h)

/-- Alma never leaves the closed interval spanned by the values of its window -/
theorem alma_interval (N : Nat) (hN : 0 < N) (sigma offset : ℝ) (xs : List ℝ) (hx : xs ≠ []) (lo hi : ℝ)
    (hlo : ∀ x ∈ lastN N xs, lo ≤ x) (hhi : ∀ x ∈ lastN N xs, x ≤ hi) :
    ∃ v, Spec.alma N sigma offset xs = some v ∧ lo ≤ v ∧ v ≤ hi := by
  refine ⟨_, alma_eq_wmean N sigma offset xs hx, ?_⟩
  have hlen : (almaWeights N sigma offset xs.length).length = (lastN N xs).length := by
    rw [almaWeights_length, lastN_length]
  exact wmean_interval _ _ hlen (almaWeights_pos N sigma offset _)
    (almaWeights_ne_nil N hN sigma offset _ (List.length_pos_of_ne_nil hx)) lo hi hlo hhi

end SF.C04.Real
