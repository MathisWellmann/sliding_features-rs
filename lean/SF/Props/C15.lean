import SF.Lemmas.NoPanic
import SF.Lemmas.Real
import SF.Lemmas.Realises
import SF.Props.C02
import SF.Props.C04
import SF.Props.C05
import SF.Props.C06
import SF.Props.C11
import SF.Props.C13
/-
  C15 — No panic: every constructed view accepts every finite in-domain stream.

  `Core.NoPanic B`: from the initial state, on ANY input list, neither `step` nor `out` returns `.error` — where the
  model returns `.error` exactly at the Rust `unwrap/expect`, index, `usize` subtraction, `assert!` and
  `debug_assert!` sites.  In exact arithmetic every scalar is finite, so the `debug_assert!(is_finite)` sites cannot
  fire; the theorems therefore cover index / unwrap / underflow / assert panics for all N and all streams and say
  nothing about f64 overflow.  Constructor rejections are part of the model (`*_ctor`).
  `wrap_noPanic` / `mapV_noPanic` / `binop_noPanic` lift this to chains and trees.
-/
namespace SF.C15

section
variable {α : Type}

theorem noPanic_of_total (B : Core α) (hstep : ∀ s x, ∃ s', B.step s x = .ok s') (hout : ∀ s, ∃ o, B.out s = .ok o) :
    B.NoPanic := by
  intro ys
  obtain ⟨s, hs, _⟩ := Core.run_invariant_init B (fun _ _ => True) trivial
    (fun s _ x _ => by obtain ⟨s', h⟩ := hstep s x; exact ⟨s', h, trivial⟩) ys
  exact ⟨s, hs, hout s⟩

/-- a core whose every run-then-`last()` is characterised by a total batch function cannot panic -/
theorem noPanic_of_outAfter (B : Core α) (spec : List α → Option α) (h : ∀ xs, B.outAfter xs = .ok (spec xs)) :
    B.NoPanic := fun ys =>
  let ⟨s, hs, ho⟩ := bind_eq_ok.mp (h ys); ⟨s, hs, _, ho⟩

variable [FloatLike α] [ExactScalar α]

/-- in exact arithmetic the finiteness assertion in front of an answer cannot fire -/
theorem assert_some_ok (v : α) : ∃ o, (do assertFinite v; pure (some v) : M (Option α)) = .ok o :=
  ⟨some v, by rw [assertFinite_exact]; rfl⟩

theorem echo_noPanic : (echoV (α := α)).NoPanic :=
  View.noPanic_iff.mpr fun xs _ => (Eft.echo_trace none xs).2.imp fun s' h => ⟨h, s', rfl⟩

/-- any core proved panic-free stays panic-free over Echo and over any panic-free inner view, to any depth -/
theorem chain_noPanic (A : View α) (B : Core α) (hA : A.NoPanic) (hB : B.NoPanic) : (wrap A B).NoPanic :=
  wrap_noPanic ExactScalar.finite A B hA hB

theorem overEcho_noPanic (B : Core α) (hB : B.NoPanic) : (overEcho B).NoPanic :=
  wrap_noPanic ExactScalar.finite echoV B echo_noPanic hB
end

set_option linter.unusedSectionVars false
variable {α : Type} [Field α] [LinearOrder α] [IsStrictOrderedRing α] [FloatLike α] [ExactScalar α]

/-! ### through the characterisation, for every N the constructor accepts and every stream -/
theorem sma_noPanic (N : Nat) (hN : 0 < N) : (smaCore (α := α) N).NoPanic :=
  noPanic_of_outAfter _ _ (C02.sma_eq N hN)
theorem cum_noPanic (N : Nat) (hN : 0 < N) : (cumCore (α := α) N).NoPanic :=
  noPanic_of_outAfter _ _ (C02.cumulative_eq N hN)
theorem min_noPanic (N : Nat) (hN : 0 < N) : (minCoreU (α := α) N).NoPanic :=
  noPanic_of_outAfter _ _ (C02.min_eq N hN)
theorem max_noPanic (N : Nat) (hN : 0 < N) : (maxCoreU (α := α) N).NoPanic :=
  noPanic_of_outAfter _ _ (C02.max_eq N hN)
theorem rsi_noPanic (N : Nat) (hN : 0 < N) : (rsiCore (α := α) N).NoPanic :=
  noPanic_of_outAfter _ _ (C05.rsi_eq N hN)
theorem myrsi_noPanic (N : Nat) (hN : 0 < N) : (myRsiCore (α := α) N).NoPanic :=
  noPanic_of_outAfter _ _ (C05.myrsi_eq N hN)
theorem hln_noPanic (N : Nat) (hN : 0 < N) : (hlnCore (α := α) N).NoPanic :=
  noPanic_of_outAfter _ _ (C02.hln_eq N hN)
theorem cog_noPanic (N : Nat) (hN : 0 < N) : (cogCore (α := α) N).NoPanic :=
  noPanic_of_outAfter _ _ (C06.cog_eq N hN)
theorem net_noPanic (N : Nat) (hN : 0 < N) : (netCore (α := α) N).NoPanic :=
  noPanic_of_outAfter _ _ (C06.net_eq_kendall N hN)
theorem laguerreRsi_noPanic (N : Nat) : (lagRsiCore (α := α) N).NoPanic :=
  noPanic_of_outAfter _ _ (C11.laguerreRsi_eq N)

section transc
variable [Transc α]
theorem welford_noPanic (N : Nat) (hN : 0 < N) : (welfordCoreU (α := α) N).NoPanic :=
  noPanic_of_outAfter _ _ (C02.welford_last_eq N hN)
theorem vst_noPanic (N : Nat) (hN : 0 < N) : (vstCoreU (α := α) N).NoPanic :=
  noPanic_of_outAfter _ _ (C02.vst_eq N hN)
theorem vsct_noPanic (N : Nat) (hN : 0 < N) : (vsctCoreU (α := α) N).NoPanic :=
  noPanic_of_outAfter _ _ (C02.vsct_eq N hN)
theorem welfordRolling_noPanic : (welfordRollingCore (α := α)).NoPanic :=
  noPanic_of_outAfter _ _ C13.welfordRolling_last
theorem roc_noPanic (N : Nat) (hN : 0 < N) : (rocCore (α := α) N).NoPanic :=
  noPanic_of_outAfter _ _ (C02.roc_eq N hN)
theorem entropy_noPanic (N : Nat) (hN : 0 < N) : (bentCore (α := α) N).NoPanic :=
  noPanic_of_outAfter _ _ (C02.entropy_eq N hN)
theorem alma_noPanic (N : Nat) (hN : 0 < N) (sigma offset : α) : (almaCore (α := α) N sigma offset).NoPanic :=
  noPanic_of_outAfter _ _ (C04.alma_eq N hN sigma offset)
theorem laguerreFilter_noPanic (g : α) : (lagfCore (α := α) g).NoPanic :=
  noPanic_of_outAfter _ _ (C11.laguerreFilter_eq g)
/-- RoofingFilter: the unchecked core never panics for any N; the constructor rejects N < 2 (`roof_ctor`) -/
theorem roofing_noPanic (N M' : Nat) (hM : 0 < M') : (roofCoreU (α := α) N M').NoPanic :=
  noPanic_of_outAfter _ _ (C11.roofing_eq N M' hM)
/-- CyberCycle: no panic for any N the constructor accepts (`cc_ctor`: exactly N ≥ 6) -/
theorem cyberCycle_noPanic (N : Nat) (hN : 6 ≤ N) : (ccCoreU (α := α) N).NoPanic :=
  noPanic_of_outAfter _ _ (C11.cyberCycle_eq N hN)
theorem trendFlex_noPanic (N : Nat) (hN : 3 ≤ N) : (tflexCore (α := α) N).NoPanic :=
  noPanic_of_outAfter _ _ (C11.trendFlex_eq N hN)
theorem reFlex_noPanic (N : Nat) (hN : 3 ≤ N) : (rflexCore (α := α) N).NoPanic :=
  noPanic_of_outAfter _ _ (C11.reFlex_eq N hN)
end transc

/-! ### directly: `step` and `last()` are total from every state (so for every N, also one the constructor rejects) -/
theorem ema_noPanic (N : Nat) (alpha : α) : (emaCore (α := α) N alpha).NoPanic := by
  apply noPanic_of_total
  · intro s x; simp only [emaCore]; split <;> exact ⟨_, rfl⟩
  · intro s; simp only [emaCore]; split
    · exact ⟨_, rfl⟩
    · exact assert_some_ok _
theorem drawdown_noPanic : (drawdownCore (α := α)).NoPanic := by
  apply noPanic_of_total
  · intro s x; exact ⟨_, rfl⟩
  · intro s; exact assert_some_ok _
theorem gte_noPanic (c : α) : (gteCore c).NoPanic :=
  noPanic_of_total _ (fun _ _ => ⟨_, rfl⟩) (fun _ => ⟨_, rfl⟩)
theorem lte_noPanic (c : α) : (lteCore c).NoPanic :=
  noPanic_of_total _ (fun _ _ => ⟨_, rfl⟩) (fun _ => ⟨_, rfl⟩)

section transc
variable [Transc α]
theorem lnReturn_noPanic : (lnReturnCore (α := α)).NoPanic := by
  apply noPanic_of_total
  · intro s x; exact ⟨_, rfl⟩
  · intro s; simp only [lnReturnCore]; split
    · exact ⟨_, rfl⟩
    · exact assert_some_ok _
theorem superSmoother_noPanic (N : Nat) : (ssCore (α := α) N).NoPanic := by
  apply noPanic_of_total
  · intro s x; exact ⟨_, rfl⟩
  · intro s; simp only [ssCore, ssOut]; split
    · exact ⟨_, rfl⟩
    · exact assert_some_ok _

/-- CorrelationTrendIndicator never panics, for every N ≥ 1 and every stream (shown directly: the characterisation
`C06.cti_eq_pearson` speaks of full windows only, `N ≤ xs.length`) -/
theorem cti_noPanic (N : Nat) (hN : 0 < N) : (ctiCore (α := α) N).NoPanic := by
  intro ys
  refine ⟨_, (Cti.tracks N hN).run ys, ?_⟩
  simp only [ctiCore]
  split
  · exact assert_some_ok _
  · exact ⟨_, rfl⟩
end transc

/-! ### constructors: exactly the rejected parameters are rejected -/
section ctor
variable {β : Type} [Add β] [Sub β] [Mul β] [Div β] [Neg β] [NatCast β] [LT β] [DecidableLT β] [LE β]
  [DecidableLE β] [BEq β] [FloatLike β] [Transc β]
theorem min_ctor (N : Nat) : (minCore (α := β) N = .error .assertFailed) ↔ N = 0 :=
  ite_throw_eq_error
theorem welford_ctor (N : Nat) : (welfordCore (α := β) N = .error .assertFailed) ↔ N = 0 :=
  ite_throw_eq_error
theorem cc_ctor (N : Nat) : (ccCore (α := β) N = .error .assertFailed) ↔ N < 6 :=
  ite_throw_eq_error
theorem roof_ctor (N M' : Nat) : (roofCore (α := β) N M' = .error .assertFailed) ↔ N < 2 :=
  ite_throw_eq_error
theorem pfe_ctor (N : Nat) (ma : View β) : (pfeCore (α := β) N ma = .error .assertFailed) ↔ N < 3 :=
  ite_throw_eq_error

/-- `Alma::new_custom` panics iff the Gaussian weight of the first or of the last window position is not positive in the
scalar type (in f32 / f64: underflows to zero) -/
theorem alma_ctor (N : Nat) (sigma offset : β) :
    (almaCoreC (α := β) N sigma offset = .error .assertFailed) ↔
      ¬ (nat 0 < almaWeight (offset * (nat N + nat 1)) (nat N / sigma) 0 ∧
         nat 0 < almaWeight (offset * (nat N + nat 1)) (nat N / sigma) (N - 1)) := by
  unfold almaCoreC
  simp only []  -- the `let`s
  split <;> simp [*, pure_eq_ok, throw_eq_error]
end ctor

/-- in real arithmetic no kernel is ever rejected: every Gaussian weight is positive.  The rejection is purely a
floating-point phenomenon, so every theorem about `almaCore` at ℝ applies to every constructed Alma -/
theorem alma_ctor_real (N : Nat) (sigma offset : ℝ) : almaCoreC (α := ℝ) N sigma offset = .ok (almaCore N sigma offset) := by
  unfold almaCoreC
  simp only []
  rw [if_pos]
  · rfl
  · rw [nat_eq, Nat.cast_zero]; exact ⟨C04.Real.gauss_pos _ _ _, C04.Real.gauss_pos _ _ _⟩

/-! ### chains and trees -/
theorem tanh_noPanic [Transc α] (A : View α) (hA : A.NoPanic) : (mapV Transc.tanh A).NoPanic :=
  mapV_noPanic ExactScalar.finite _ A hA

/-- two-level example: Sma(M) over Sma(N) over Echo never panics, for all N, M ≥ 1 -/
theorem sma_sma_noPanic (N M' : Nat) (hN : 0 < N) (hM : 0 < M') :
    (wrap (overEcho (smaCore (α := α) N)) (smaCore M')).NoPanic :=
  chain_noPanic _ _ (overEcho_noPanic _ (sma_noPanic N hN)) (sma_noPanic M' hM)

section more
variable [Transc α]
/-- EhlersFisherTransform never panics, for every N ≥ 1 (N = 1 included: the emptied window falls back to the new
value), every stream and every moving-average view that itself never panics and realises a batch function -/
theorem fisher_noPanic (N : Nat) (hN : 0 < N) (ma : View α) (maS : List α → Option α) (hR : Eft.Realises ma maS) :
    (eftCore N ma).NoPanic := noPanic_of_outAfter _ _ (C11.fisher_eq N hN ma maS hR)

/-- PolarizedFractalEfficiency never panics for every window the constructor accepts (N ≥ 3; `pfe_ctor`) -/
theorem pfe_noPanic (N : Nat) (hN : 3 ≤ N) (ma : View α) (maS : List α → Option α) (hR : Eft.Realises ma maS) :
    (pfeCoreU N ma).NoPanic := noPanic_of_outAfter _ _ (C11.pfe_eq N hN ma maS hR)

/-- Add, Subtract and Multiply of panic-free children never panic (`binop_noPanic`, for any total combining function;
Divide is not total: `div_panics_iff`) -/
theorem add_noPanic (A B : View α) (hA : A.NoPanic) (hB : B.NoPanic) : (binop addF A B).NoPanic :=
  binop_noPanic ExactScalar.finite _ (fun a b => ⟨a + b, rfl⟩) A B hA hB
theorem sub_noPanic (A B : View α) (hA : A.NoPanic) (hB : B.NoPanic) : (binop subF A B).NoPanic :=
  binop_noPanic ExactScalar.finite _ (fun a b => ⟨a - b, rfl⟩) A B hA hB
theorem mul_noPanic (A B : View α) (hA : A.NoPanic) (hB : B.NoPanic) : (binop mulF A B).NoPanic :=
  binop_noPanic ExactScalar.finite _ (fun a b => ⟨a * b, rfl⟩) A B hA hB
/-- the debug assertion of Divide fires exactly on a zero divisor -/
theorem div_panics_iff (a b : α) : (∃ e, divF a b = .error e) ↔ b = 0 := by
  unfold divF
  by_cases h : b = 0
  · subst h; simp [throw_eq_error]
  · simp [h, pure_eq_ok]
end more

end SF.C15
