import SF.Props.C01
/-
  C14 — Combinators are pointwise, stateless functions of their children.
  All statements hold for an arbitrary scalar type (in particular for `Float`: "bit-exactly").
-/
namespace SF.C14
set_option linter.unusedSectionVars false
variable {α : Type} [FloatLike α]

/-- `Add` reports `a + b` of its children's current outputs, and nothing else influences it: the answer is a function
of the two children's current answers only (the node has no state of its own: its state IS the pair of child states). -/
theorem add_last [Add α] (A B : View α) (a : A.σ) (b : B.σ) (x y : α) (ha : A.last a = .ok (some x))
    (hb : B.last b = .ok (some y)) (hx : FloatLike.isFinite x = true) (hy : FloatLike.isFinite y = true) :
    (binop addF A B).last (a, b) = .ok (some (x + y)) :=
  C01.binop_last_some addF A B a b x y _ ha hb hx hy rfl

theorem sub_last [Sub α] (A B : View α) (a : A.σ) (b : B.σ) (x y : α) (ha : A.last a = .ok (some x))
    (hb : B.last b = .ok (some y)) (hx : FloatLike.isFinite x = true) (hy : FloatLike.isFinite y = true) :
    (binop subF A B).last (a, b) = .ok (some (x - y)) :=
  C01.binop_last_some subF A B a b x y _ ha hb hx hy rfl

theorem mul_last [Mul α] (A B : View α) (a : A.σ) (b : B.σ) (x y : α) (ha : A.last a = .ok (some x))
    (hb : B.last b = .ok (some y)) (hx : FloatLike.isFinite x = true) (hy : FloatLike.isFinite y = true) :
    (binop mulF A B).last (a, b) = .ok (some (x * y)) :=
  C01.binop_last_some mulF A B a b x y _ ha hb hx hy rfl

/-- `Divide` (divisor non-zero, as the property's domain says; a zero divisor is the `debug_assert_ne!`) -/
theorem div_last [Div α] [NatCast α] [BEq α] (A B : View α) (a : A.σ) (b : B.σ) (x y : α) (ha : A.last a = .ok (some x))
    (hb : B.last b = .ok (some y)) (hx : FloatLike.isFinite x = true) (hy : FloatLike.isFinite y = true)
    (hy0 : (y == (nat 0 : α)) = false) :
    (binop divF A B).last (a, b) = .ok (some (x / y)) :=
  C01.binop_last_some divF A B a b x y _ ha hb hx hy (by rw [divF, hy0]; rfl)

section binops
variable [Add α] [Sub α] [Mul α] [Div α] [NatCast α] [BEq α]

theorem div_last_zero (A B : View α) (a : A.σ) (b : B.σ) (x y : α) (ha : A.last a = .ok (some x))
    (hb : B.last b = .ok (some y)) (hx : FloatLike.isFinite x = true) (hy : FloatLike.isFinite y = true)
    (hy0 : (y == (nat 0 : α)) = true) :
    (binop divF A B).last (a, b) = .error .debugAssert := by
  rw [binop_last_of_some ha hb hx hy, divF, hy0]; rfl

/-- a binary node reports nothing as soon as one child reports nothing -/
theorem bin_last_none (f : α → α → M α) (A B : View α) (a : A.σ) (b : B.σ) (oa ob : Option α)
    (ha : A.last a = .ok oa) (hb : B.last b = .ok ob) (h : oa = none ∨ ob = none) :
    (binop f A B).last (a, b) = .ok none :=
  binop_last_of_none ha hb h

/-- statelessness: two states of a binary node in which the children give the same current answers give the same answer -/
theorem bin_stateless (f : α → α → M α) (A B : View α) (a a' : A.σ) (b b' : B.σ)
    (ha : A.last a = A.last a') (hb : B.last b = B.last b') :
    (binop f A B).last (a, b) = (binop f A B).last (a', b') := by
  simp only [ha, hb]
end binops

section tanh
variable [Transc α]
/-- `Tanh` reports `tanh` of its child's current output -/
theorem tanh_last (A : View α) (a : A.σ) (v : α) (h : A.last a = .ok (some v)) (hv : FloatLike.isFinite v = true) :
    (mapV Transc.tanh A).last a = .ok (some (Transc.tanh v)) :=
  C01.mapV_last_some _ A a v h hv

theorem tanh_last_none (A : View α) (a : A.σ) (h : A.last a = .ok none) :
    (mapV Transc.tanh A).last a = .ok none :=
  C01.mapV_last_none _ A a h

theorem tanh_stateless (f : α → α) (A : View α) (a a' : A.σ) (h : A.last a = A.last a') :
    (mapV f A).last a = (mapV f A).last a' := by
  simp only [h]
end tanh

section clip
variable [LE α] [DecidableLE α]

omit [FloatLike α] in
/-- `GTE`: after being delivered `v` (whatever came before) the answer is `max(v, clip)` -/
theorem gte_step (clip : α) (s : Option α) (v : α) :
    (gteCore clip).step s v = .ok (some (if clip ≤ v then v else clip)) := by
  simp only [gteCore]; split <;> rfl

omit [FloatLike α] in
theorem lte_step (clip : α) (s : Option α) (v : α) :
    (lteCore clip).step s v = .ok (some (if v ≤ clip then v else clip)) := by
  simp only [lteCore]; split <;> rfl

theorem gte_out (clip : α) (s : Option α) : (gteCore clip).out s = .ok s := rfl
theorem lte_out (clip : α) (s : Option α) : (lteCore clip).out s = .ok s := rfl

/-- no earlier value can influence `GTE`/`LTE`: the new state does not depend on the old one -/
theorem gte_memoryless (clip : α) (s s' : Option α) (v : α) :
    (gteCore clip).step s v = (gteCore clip).step s' v := by rw [gte_step, gte_step]
theorem lte_memoryless (clip : α) (s s' : Option α) (v : α) :
    (lteCore clip).step s v = (lteCore clip).step s' v := by rw [lte_step, lte_step]
end clip

/-- `Echo` reports the latest input -/
theorem echo_upd (s : Option α) (x : α) (hx : FloatLike.isFinite x = true) :
    (echoV (α := α)).upd s x = .ok (some x) := by
  simp only [assertFinite_ok hx, ok_bind, pure_eq_ok]
theorem echo_last (s : Option α) : (echoV (α := α)).last s = .ok s := rfl

/-- `Constant` always reports its constant, whatever it is fed -/
theorem const_run (c : α) (xs : List α) : (constV c).run () xs = .ok () := by
  induction xs with
  | nil => rfl
  | cons x xs ih => exact ih
theorem const_last (c : α) : (constV c).last () = .ok (some c) := rfl

end SF.C14

namespace SF.C14.Example
instance : FloatLike Int := ⟨fun _ => true, fun _ => false, 0, 0⟩
/-- the hypotheses are met by concrete states: Echo children holding 7 and 2 -/
example : (binop (α := Int) divF echoV echoV).last (some 7, some 2) = .ok (some 3) :=
  div_last echoV echoV (some 7) (some 2) 7 2 rfl rfl rfl rfl rfl
end SF.C14.Example
