import SF.Lemmas.ReadyStable
import SF.Props.C01
import SF.Props.C02
import SF.Props.C04
import SF.Props.C13
import SF.Props.C05
import SF.Props.C06
import SF.Props.C11
/-
  C08 — Readiness: None during warm-up, then a value for ever.
  Warm-up lengths are read off the characterisations: the view reports `some` exactly from the documented value on,
  hence readiness never reverts (the condition is monotone in the number of delivered values).  "Finite" in exact
  arithmetic = the value is an ordinary field element; what matters is that the division / sqrt / ln producing it has
  the spec's denominators, which is part of each characterisation.  A view that has been delivered nothing by its
  inner view never changes its answer (`wrap_idle`).
-/
namespace SF.C08
open Spec
set_option linter.unusedSectionVars false
variable {α : Type} [Field α] [LinearOrder α] [IsStrictOrderedRing α] [FloatLike α] [ExactScalar α]

/-- a spec of the shape "nothing while `c`, then `o`" -/
theorem ite_none_ne_none {β : Type} {c : Prop} [Decidable c] {o : Option β} :
    (if c then none else o) ≠ none ↔ ¬ c ∧ o ≠ none := by
  split <;> simp [*]

theorem ite_none_some_ne_none {β : Type} {c : Prop} [Decidable c] {b : β} :
    (if c then none else some b) ≠ none ↔ ¬ c := by
  rw [ite_none_ne_none, and_iff_left (Option.some_ne_none b)]

/-- Sma reports nothing for fewer than N delivered values and reports from the N-th on, for ever -/
theorem sma_ready (N : Nat) (hN : 0 < N) (xs : List α) :
    (∃ v, (smaCore (α := α) N).outAfter xs = .ok (some v)) ↔ N ≤ xs.length := by
  rw [C02.sma_eq N hN, exists_ok_some_iff, Spec.sma, ite_none_some_ne_none, Nat.not_lt]

theorem ema_ready (N : Nat) (hN : 0 < N) (alpha : α) (xs : List α) :
    (∃ v, (emaCore (α := α) N alpha).outAfter xs = .ok (some v)) ↔ N ≤ xs.length := by
  rw [C04.ema_eq N hN, exists_ok_some_iff, Spec.ema, ite_none_ne_none, Nat.not_lt, and_iff_left_iff_imp]
  intro h
  cases xs with
  | nil => exact absurd h (Nat.not_le.mpr hN)
  | cons x r => exact Option.some_ne_none _

/-- Cumulative, Min, Max report from the 1st value -/
theorem cumulative_ready (N : Nat) (hN : 0 < N) (xs : List α) :
    (∃ v, (cumCore (α := α) N).outAfter xs = .ok (some v)) ↔ 1 ≤ xs.length := by
  rw [C02.cumulative_eq N hN]
  cases xs <;> simp [Spec.cumulative]

theorem min_ready (N : Nat) (hN : 0 < N) (xs : List α) :
    (∃ v, (minCoreU (α := α) N).outAfter xs = .ok (some v)) ↔ 1 ≤ xs.length := by
  rw [C02.min_eq N hN, exists_ok_some_iff, Spec.wmin, Ne, MinMax.minL_none, ← Ne, lastN_ne_nil hN]

theorem max_ready (N : Nat) (hN : 0 < N) (xs : List α) :
    (∃ v, (maxCoreU (α := α) N).outAfter xs = .ok (some v)) ↔ 1 ≤ xs.length := by
  rw [C02.max_eq N hN, exists_ok_some_iff, Spec.wmax, Ne, MinMax.maxL_none, ← Ne, lastN_ne_nil hN]

section transc
variable [Transc α]
theorem welford_ne_none (N : Nat) (xs : List α) : Spec.welford N xs ≠ none ↔ N - 1 ≤ xs.length := by
  rw [Spec.welford, ite_none_some_ne_none, Nat.not_lt]

theorem vst_ne_none (N : Nat) (xs : List α) : Spec.vst N xs ≠ none ↔ Spec.welford N xs ≠ none := by
  unfold Spec.vst
  cases Spec.welford N xs <;> cases xs.getLast? <;> simp

theorem vsct_ne_none (N : Nat) (xs : List α) : Spec.vsct N xs ≠ none ↔ Spec.welford N xs ≠ none := by
  unfold Spec.vsct
  cases Spec.welford N xs <;> cases xs.getLast? <;> simp

/-- WelfordOnline, Vst, Vsct report exactly from N−1 delivered values on (so: no earlier than N−1, no later than N) -/
theorem welford_ready (N : Nat) (hN : 0 < N) (xs : List α) :
    (∃ v, (welfordCoreU (α := α) N).outAfter xs = .ok (some v)) ↔ N - 1 ≤ xs.length := by
  rw [C02.welford_last_eq N hN, exists_ok_some_iff, welford_ne_none]

theorem vst_ready (N : Nat) (hN : 0 < N) (xs : List α) :
    (∃ v, (vstCoreU (α := α) N).outAfter xs = .ok (some v)) ↔ N - 1 ≤ xs.length := by
  rw [C02.vst_eq N hN, exists_ok_some_iff, vst_ne_none, welford_ne_none]

theorem vsct_ready (N : Nat) (hN : 0 < N) (xs : List α) :
    (∃ v, (vsctCoreU (α := α) N).outAfter xs = .ok (some v)) ↔ N - 1 ≤ xs.length := by
  rw [C02.vsct_eq N hN, exists_ok_some_iff, vsct_ne_none, welford_ne_none]

/-- WelfordRolling from the 1st value, LnReturn from the 2nd value (non-zero inputs) -/
theorem welfordRolling_ready (xs : List α) :
    (∃ v, (welfordRollingCore (α := α)).outAfter xs = .ok (some v)) ↔ 1 ≤ xs.length := by
  rw [C13.welfordRolling_last, exists_ok_some_iff, Spec.welfordRolling, ite_none_some_ne_none]
  cases xs <;> simp

theorem lnReturn_ready (xs : List α) (hx : ∀ x ∈ xs, x ≠ 0) :
    (∃ v, (lnReturnCore (α := α)).outAfter xs = .ok (some v)) ↔ 2 ≤ xs.length := by
  rw [C13.lnReturn_eq xs hx]
  -- the spec looks at the last two values
  rcases List.eq_nil_or_concat xs with rfl | ⟨ys, y, rfl⟩
  · simp [Spec.lnReturn]
  · rcases List.eq_nil_or_concat ys with rfl | ⟨zs, z, rfl⟩
    · simp [Spec.lnReturn]
    · simp [Spec.lnReturn]
end transc

/-- Rsi and MyRSI report nothing for fewer than N delivered values and report from the N-th on -/
theorem rsi_ready (N : Nat) (hN : 0 < N) (xs : List α) :
    (∃ v, (rsiCore (α := α) N).outAfter xs = .ok (some v)) ↔ N ≤ xs.length := by
  rw [C05.rsi_eq N hN, exists_ok_some_iff, Spec.rsi, ite_none_some_ne_none]
  cases xs with
  | nil => simp; omega
  | cons => simp

theorem myrsi_ready (N : Nat) (hN : 0 < N) (xs : List α) :
    (∃ v, (myRsiCore (α := α) N).outAfter xs = .ok (some v)) ↔ N ≤ xs.length := by
  rw [C05.myrsi_eq N hN, exists_ok_some_iff, Spec.myRsi, ite_none_some_ne_none, Nat.not_lt]

theorem superSmoother_ne_none [Transc α] (N : Nat) (hN : 0 < N) (xs : List α) :
    Spec.superSmoother N xs ≠ none ↔ N ≤ xs.length := by
  rw [Spec.superSmoother, ite_none_ne_none, Nat.not_lt, and_iff_left_iff_imp]
  intro h
  obtain ⟨v, hv⟩ := SS.smoothSeq_head (Spec.ssCoef N) (nat 0) xs (List.ne_nil_of_length_pos (Nat.lt_of_lt_of_le hN h))
  rw [hv]
  exact Option.some_ne_none v

/-- SuperSmoother: nothing for fewer than N delivered values, from the N-th on -/
theorem superSmoother_ready [Transc α] (N : Nat) (hN : 0 < N) (xs : List α) :
    (∃ v, (ssCore (α := α) N).outAfter xs = .ok (some v)) ↔ N ≤ xs.length := by
  rw [C11.superSmoother_eq N hN, exists_ok_some_iff, superSmoother_ne_none N hN]

/-- RoofingFilter(N, M) reports from value N+M+1 -/
theorem roofing_ready [Transc α] (N M' : Nat) (hM : 0 < M') (xs : List α) :
    (∃ v, (roofCoreU (α := α) N M').outAfter xs = .ok (some v)) ↔ N + M' + 1 ≤ xs.length := by
  rw [C11.roofing_eq N M' hM, exists_ok_some_iff, Spec.roofing, superSmoother_ne_none M' hM, List.length_drop,
    List.length_reverse]
  -- the smoother sees the high-pass outputs from index N+1 on
  have hl : (hpSeq N xs).length = xs.length := Roof.hpFold_length N xs
  omega

/-- Alma, CenterOfGravity, BinaryEntropy, LaguerreFilter report from the 1st value -/
theorem alma_ready [Transc α] (N : Nat) (hN : 0 < N) (sigma offset : α) (xs : List α) :
    (∃ v, (almaCore (α := α) N sigma offset).outAfter xs = .ok (some v)) ↔ 1 ≤ xs.length := by
  rw [C04.alma_eq N hN, exists_ok_some_iff, Spec.alma, ite_none_some_ne_none]
  cases xs <;> simp

theorem cog_ready (N : Nat) (hN : 0 < N) (xs : List α) :
    (∃ v, (cogCore (α := α) N).outAfter xs = .ok (some v)) ↔ 1 ≤ xs.length := by
  rw [C06.cog_eq N hN, exists_ok_some_iff, Spec.cog, ite_none_some_ne_none, ← lastN_ne_nil hN, List.isEmpty_iff]

theorem entropy_ready [Transc α] (N : Nat) (hN : 0 < N) (xs : List α) :
    (∃ v, (bentCore (α := α) N).outAfter xs = .ok (some v)) ↔ 1 ≤ xs.length := by
  rw [C02.entropy_eq N hN, exists_ok_some_iff, Spec.entropy, ite_none_some_ne_none, ← lastN_ne_nil hN, List.isEmpty_iff]

theorem laguerreFilter_ready [Transc α] (g : α) (xs : List α) :
    (∃ v, (lagfCore (α := α) g).outAfter xs = .ok (some v)) ↔ 1 ≤ xs.length := by
  rw [C11.laguerreFilter_eq]
  cases xs <;> simp [Spec.laguerreFilter]

/-- NET reports as soon as its window holds two values (never for N = 1), and for ever after -/
theorem net_ready (N : Nat) (hN : 0 < N) (xs : List α) :
    (∃ v, (netCore (α := α) N).outAfter xs = .ok (some v)) ↔ 2 ≤ N ∧ 2 ≤ xs.length := by
  rw [C06.net_eq_kendall N hN, exists_ok_some_iff, Spec.net, ite_none_some_ne_none, lastN_length]
  omega

/-- CyberCycle reports from the 1st value -/
theorem cyberCycle_ready [Transc α] (N : Nat) (hN : 6 ≤ N) (xs : List α) :
    (∃ v, (ccCoreU (α := α) N).outAfter xs = .ok (some v)) ↔ 1 ≤ xs.length := by
  rw [C11.cyberCycle_eq N hN, CC.cyberCycle_unfold]
  cases xs with
  | nil => simp [CC.C]
  | cons x r =>
    obtain ⟨v, hv⟩ := CC.C_succ_cons N (x :: r) r.length
    simp [hv]

/-- TrendFlex's zero-mean-square fallback is 0, not "hold", so it reports from the 1st value -/
theorem flexNorm_false_ne_none [Transc α] (ds : List α) (h : ds ≠ []) : Spec.flexNorm false ds ≠ none := by
  obtain ⟨pre, d, rfl⟩ := (List.eq_nil_or_concat' ds).resolve_left h
  simp only [Spec.flexNorm, List.foldl_concat, Bool.false_eq_true, if_false]
  split
  · exact Option.some_ne_none _
  · exact Option.some_ne_none _

theorem trendFlex_ready [Transc α] (N : Nat) (hN : 3 ≤ N) (xs : List α) :
    (∃ v, (tflexCore (α := α) N).outAfter xs = .ok (some v)) ↔ 1 ≤ xs.length := by
  rw [C11.trendFlex_eq N hN, exists_ok_some_iff]
  cases xs with
  | nil => simp [Spec.trendFlex]
  | cons x0 r =>
    refine iff_of_true (flexNorm_false_ne_none _ (List.ne_nil_of_length_pos ?_)) (Nat.le_add_left 1 r.length)
    -- the list of deviations is as long as the history
    rw [List.length_map, List.length_range, List.length_reverse, SS.smoothSeq_eq, SS.foldState_length]
    exact Nat.succ_pos _

/-- readiness never reverts, as a consequence: if the view reports after `xs` it reports after `xs ++ ys` (Sma) -/
theorem sma_ready_stable (N : Nat) (hN : 0 < N) (xs ys : List α)
    (h : ∃ v, (smaCore (α := α) N).outAfter xs = .ok (some v)) :
    ∃ v, (smaCore (α := α) N).outAfter (xs ++ ys) = .ok (some v) := by
  rw [sma_ready N hN] at h ⊢
  rw [List.length_append]
  omega

/-- a fold whose `Option` component is, at every step, either kept or set to a value: once it holds a value it always does -/
theorem fold_opt_stable {σ β γ : Type} (f : σ × Option β → γ → σ × Option β)
    (hf : ∀ acc x, (f acc x).2 = acc.2 ∨ ∃ v, (f acc x).2 = some v) (ys : List γ) (acc : σ × Option β)
    (h : ∃ v, acc.2 = some v) : ∃ v, (ys.foldl f acc).2 = some v := by
  induction ys generalizing acc with
  | nil => simpa using h
  | cons y r ih =>
    simp only [List.foldl_cons]
    apply ih
    rcases hf acc y with e | ⟨v, e⟩
    · rw [e]; exact h
    · exact ⟨v, e⟩

theorem ite_keep_or_some {β : Type} (c : Prop) [Decidable c] (a : Option β) (b : β) :
    (if c then a else some b) = a ∨ ∃ v, (if c then a else some b) = some v := by
  by_cases h : c
  · left; simp [h]
  · right; exact ⟨b, by simp [h]⟩

/-- **LaguerreRSI: readiness never reverts** — if it reports after `xs` it reports after `xs ++ ys`, for every N -/
theorem laguerreRsi_ready_stable [Transc α] (N : Nat) (xs ys : List α)
    (h : ∃ v, (lagRsiCore (α := α) N).outAfter xs = .ok (some v)) :
    ∃ v, (lagRsiCore (α := α) N).outAfter (xs ++ ys) = .ok (some v) := by
  rw [C11.laguerreRsi_eq] at h ⊢
  obtain ⟨v, hv⟩ := h
  have hv := Except.ok.inj hv
  by_cases hl : xs.length < 2
  · have : xs.drop 2 = [] := List.drop_eq_nil_of_le (by omega)
    simp [Spec.laguerreRsi, this] at hv
  · have hd : (xs ++ ys).drop 2 = xs.drop 2 ++ ys := List.drop_append_of_le_length (by omega)
    simp only [Spec.laguerreRsi] at hv ⊢
    rw [hd, List.foldl_append]
    simp only [Except.ok.injEq]
    refine fold_opt_stable _ ?_ ys _ ⟨v, hv⟩
    intro acc x
    exact ite_keep_or_some _ _ _

/-- a view that has been delivered nothing by its inner view never changes its answer: if the inner view reported
`none` at each of `n` steps, the chain's answers are `n` copies of the core's initial answer -/
theorem wrap_idle (A : View α) (B : Core α) (a : A.σ) (b : B.σ) (xs : List α)
    (hA : A.trace a xs = .ok (List.replicate xs.length none)) (o : Option α) (ho : B.out b = .ok o) :
    (wrap A B).trace (a, b) xs = .ok (List.replicate xs.length o) := by
  rw [C01.wrap_trace A B a b xs (allFinite_exact xs) _ hA, Core.feed_idle B b o ho]

/-- a combining node with a total function is ready exactly when both children are (`C01.binop_last_*`) -/
theorem binop_ready_iff (f : α → α → M α) (hf : ∀ x y, ∃ r, f x y = .ok r) (A B : View α) (a : A.σ) (b : B.σ)
    (oa ob : Option α) (ha : A.last a = .ok oa) (hb : B.last b = .ok ob) :
    (∃ v, (binop f A B).last (a, b) = .ok (some v)) ↔ (oa.isSome ∧ ob.isSome) := by
  cases oa with
  | none => rw [C01.binop_last_none_left f A B a b ob ha hb]; simp
  | some x =>
    cases ob with
    | none => rw [C01.binop_last_none_right f A B a b _ ha hb]; simp
    | some y =>
      obtain ⟨r, hr⟩ := hf x y
      rw [C01.binop_last_some f A B a b x y r ha hb (ExactScalar.finite x) (ExactScalar.finite y) hr]; simp

/-! ### readiness never reverts: one-step form, from ANY state, and its closure under chaining -/
section stable
variable [Transc α]
/-- once `last()` reports a value, one more update cannot make it report `None` — for these cores from any state whatsoever
(Rsi, MyRSI, Alma, LaguerreFilter, WelfordOnline/Vst/Vsct, RoofingFilter follow from their first-ready index above) -/
theorem core_readyStable (N : Nat) (c a : α) :
    (gteCore c).ReadyStable ∧ (lteCore c).ReadyStable ∧ (drawdownCore (α := α)).ReadyStable ∧
    (welfordRollingCore (α := α)).ReadyStable ∧ (emaCore N a).ReadyStable ∧ (smaCore (α := α) N).ReadyStable ∧
    (cumCore (α := α) N).ReadyStable ∧ (minCoreU (α := α) N).ReadyStable ∧ (maxCoreU (α := α) N).ReadyStable ∧
    (rocCore (α := α) N).ReadyStable ∧ (hlnCore (α := α) N).ReadyStable ∧ (ctiCore (α := α) N).ReadyStable ∧
    (cogCore (α := α) N).ReadyStable ∧ (bentCore (α := α) N).ReadyStable ∧ (ssCore (α := α) N).ReadyStable :=
  ⟨Ready.gte c, Ready.lte c, Ready.drawdown, Ready.welfordRolling, Ready.ema N a, Ready.sma N, Ready.cum N, Ready.wmin N,
    Ready.wmax N, Ready.roc N, Ready.hln N, Ready.cti N, Ready.cog N, Ready.entropy N, Ready.superSmoother N⟩

/-- … and TrendFlex, ReFlex (which HOLDS its previous output while its mean square is 0) and NET, from any state -/
theorem flex_net_readyStable (N : Nat) :
    (tflexCore (α := α) N).ReadyStable ∧ (rflexCore (α := α) N).ReadyStable ∧ (netCore (α := α) N).ReadyStable :=
  ⟨Ready.trendFlex N, Ready.reFlex N, Ready.net N⟩

/-- whatever the moving average does, emitting keeps the output queue or appends one value to it -/
theorem eftEmit_queue (ma : View α) (m : ma.σ) (qOut : List α) (high low v : α) (r : ma.σ × List α)
    (h : eftEmit ma m qOut high low v = .ok r) : r.2 = qOut ∨ ∃ y, r.2 = qOut ++ [y] := by
  unfold eftEmit at h
  split at h
  · cases h; exact Or.inr ⟨_, rfl⟩
  · obtain ⟨m', -, h⟩ := bind_eq_ok.mp h
    obtain ⟨o, -, h⟩ := bind_eq_ok.mp h
    cases o with
    | none => cases h; exact Or.inl rfl
    | some sm =>
      dsimp only at h
      split at h
      · cases h; exact Or.inr ⟨_, rfl⟩
      · obtain ⟨b, -, h⟩ := bind_eq_ok.mp h
        obtain ⟨-, -, h⟩ := bind_eq_ok.mp h
        cases h; exact Or.inr ⟨_, rfl⟩

/-- EhlersFisherTransform: from any state and for ANY moving-average view inside it (even one whose own readiness reverted):
its output queue, trimmed to one entry before each emission, never empties again -/
theorem fisher_readyStable (N : Nat) (ma : View α) : (eftCore N ma).ReadyStable := by
  intro s x s' ⟨v, hv⟩ hs hn
  have hne : s.qOut ≠ [] := fun e => by
    rw [show (eftCore N ma).out s = .ok s.qOut.getLast? from rfl, e] at hv
    cases hv
  obtain ⟨w, -, hs⟩ := bind_eq_ok.mp hs
  obtain ⟨e, he, hs⟩ := bind_eq_ok.mp hs
  cases hs
  have h0 : e.2 = [] := List.getLast?_eq_none_iff.mp (Except.ok.inj hn)
  have htrim : (if 1 < s.qOut.length then s.qOut.tail else s.qOut) ≠ [] := by
    split
    · rename_i h1
      intro h
      have := congrArg List.length h
      rw [List.length_tail, List.length_nil] at this
      omega
    · exact hne
  rcases eftEmit_queue ma s.ma _ _ _ _ e he with h | ⟨y, h⟩
  · exact htrim (h.symm.trans h0)
  · exact List.append_ne_nil_of_right_ne_nil _ (List.cons_ne_nil y []) (h.symm.trans h0)

/-- **a chain's readiness never reverts if its outermost core's does not** — whatever the inner view does (it may even
relapse): the core is stepped only when the inner view delivers, and `last()` of the chain is the core's -/
theorem chain_readyStable (A : View α) (B : Core α) (hB : B.ReadyStable) : (wrap A B).ReadyStable :=
  Ready.wrap_readyStable A B hB

/-- Tanh keeps the readiness of its child -/
theorem tanh_readyStable (A : View α) (hA : A.ReadyStable) : (mapV Transc.tanh A).ReadyStable :=
  Ready.mapV_readyStable _ A hA
end stable

end SF.C08
