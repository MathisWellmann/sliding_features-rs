import SF.Lemmas.Sma
import SF.Lemmas.Cum
import SF.Lemmas.MinMax
import SF.Lemmas.Welford
import SF.Lemmas.Hln
import SF.Lemmas.Roc
import SF.Lemmas.Bent
/-
  C02 — Window statistics equal their definition over exactly the last N values.
  Each theorem: for every window length N ≥ 1 and every finite history `xs` (any length, any values: ties, zeros,
  negatives), running the model's state machine over `xs` does not panic and then reports exactly `Spec.<view> N xs`,
  a function of `lastN N xs` only — no older value contributes, no value of the window is missed.  (Roc is the exception:
  its base is the value N steps back, one place before the window, and it holds its previous output while that base is 0:
  `RocSuffix.roc_suffix`.)  Before N values the window is "all values so far" (`lastN N xs = xs`).  Scalars: any linearly ordered field ("real arithmetic");
  `sqrt` is the scalar's own (uninterpreted), so at `ℝ` it is `Real.sqrt`.
-/
namespace SF.C02
set_option linter.unusedSectionVars false
variable {α : Type} [Field α] [LinearOrder α] [IsStrictOrderedRing α] [FloatLike α] [ExactScalar α]

/-- Sma is the arithmetic mean of exactly the N most recent values, from the N-th value on (nothing before) -/
theorem sma_eq (N : Nat) (hN : 0 < N) (xs : List α) :
    (smaCore (α := α) N).outAfter xs = .ok (Spec.sma N xs) := Sma.outAfter_eq N hN xs

theorem sma_spec_none (N : Nat) (xs : List α) (h : xs.length < N) : Spec.sma (α := α) N xs = none := by
  simp [Spec.sma, h]

/-- Cumulative is the sum of exactly the N most recent values (all values so far before that) -/
theorem cumulative_eq (N : Nat) (hN : 0 < N) (xs : List α) :
    (cumCore (α := α) N).outAfter xs = .ok (Spec.cumulative N xs) := (Cum.tracks N hN).outAfter xs

/-- Min / Max are the extrema of exactly the N most recent values -/
theorem min_eq (N : Nat) (hN : 0 < N) (xs : List α) :
    (minCoreU (α := α) N).outAfter xs = .ok (Spec.wmin N xs) := (MinMax.min_tracks N hN).outAfter xs
theorem max_eq (N : Nat) (hN : 0 < N) (xs : List α) :
    (maxCoreU (α := α) N).outAfter xs = .ok (Spec.wmax N xs) := (MinMax.max_tracks N hN).outAfter xs

/-- what "extremum of the window" means: an element of the window below (above) all others -/
theorem wmin_spec (N : Nat) (xs : List α) (m : α) (h : Spec.wmin N xs = some m) :
    m ∈ Spec.lastN N xs ∧ ∀ x ∈ Spec.lastN N xs, m ≤ x := MinMax.minL_least _ m h
theorem wmax_spec (N : Nat) (xs : List α) (m : α) (h : Spec.wmax N xs = some m) :
    m ∈ Spec.lastN N xs ∧ ∀ x ∈ Spec.lastN N xs, x ≤ m := MinMax.maxL_greatest _ m h

/-- HLNormalizer is 2(x − min)/(max − min) − 1 (0 when max = min) with min, max, x taken over exactly the N most recent
values: the cached extrema are refreshed whenever the evicted value was one of them -/
theorem hln_eq (N : Nat) (hN : 0 < N) (xs : List α) :
    (hlnCore (α := α) N).outAfter xs = .ok (Spec.hln N xs) := by
  rw [(Hln.tracks N hN).outAfter, Hln.out_st N hN]

/-- Roc is 100(x_t − x_{t−N})/x_{t−N}; the base is the first value while fewer than N+1 values exist; the previous output
is held when the base is 0 -/
theorem roc_eq (N : Nat) (hN : 0 < N) (xs : List α) :
    (rocCore (α := α) N).outAfter xs = .ok (Spec.roc N xs) := (Roc.tracks N hN).outAfter xs

/-- one step of the definition, unfolded: appending x to a history `x0 :: r` -/
theorem roc_spec_step (N : Nat) (x0 : α) (r : List α) (x : α) :
    Spec.roc N (x0 :: r ++ [x]) =
      (let hist := x0 :: r ++ [x]
       let t := hist.length - 1
       let base := if N ≤ t then hist[t - N]?.getD x0 else x0
       if base == nat 0 then Spec.roc N (x0 :: r) else some (nat 100 * (x - base) / base)) :=
  Roc.roc_snoc_cons N x0 r x

section welford
variable [Transc α]

/-- BinaryEntropy is the Shannon entropy in bits of the fraction of non-negative values among the last N -/
theorem entropy_eq (N : Nat) (hN : 0 < N) (xs : List α) :
    (bentCore (α := α) N).outAfter xs = .ok (Spec.entropy N xs) := by
  rw [(Bent.tracks N hN).outAfter, Bent.out_st]

/-- WelfordOnline: after any history the accessors `mean()` and `variance()` are the mean and the sample variance of
exactly the window -/
theorem welford_state (N : Nat) (hN : 0 < N) (xs : List α) :
    ∃ s, (welfordCoreU (α := α) N).run (welfordCoreU (α := α) N).init xs = .ok s ∧
      s.mean = Spec.welfordMean N xs ∧ s.variance = Spec.sampleVar (Spec.lastN N xs) := by
  exact ⟨_, (Welford.tracks N hN).run xs, rfl, Welford.variance_st N xs⟩

/-- `last()` is the sample standard deviation of exactly the window (nothing before N−1 values) -/
theorem welford_last_eq (N : Nat) (hN : 0 < N) (xs : List α) :
    (welfordCoreU (α := α) N).outAfter xs = .ok (Spec.welford N xs) :=
  (Welford.tracks N hN).outAfter xs |>.trans (Welford.out_st N hN xs)

/-- Vst = x_t / std and Vsct = (x_t − mean) / std with that same windowed mean and std (x_t resp. 0 when std is 0) -/
theorem vst_eq (N : Nat) (hN : 0 < N) (xs : List α) :
    (vstCoreU (α := α) N).outAfter xs = .ok (Spec.vst N xs) :=
  (Welford.vst_tracks N hN).outAfter xs |>.trans (Welford.vst_out_st N hN xs)
theorem vsct_eq (N : Nat) (hN : 0 < N) (xs : List α) :
    (vsctCoreU (α := α) N).outAfter xs = .ok (Spec.vsct N xs) :=
  (Welford.vsct_tracks N hN).outAfter xs |>.trans (Welford.vsct_out_st N hN xs)
end welford

/-- the constructors of Min / Max / WelfordOnline reject `window_len = 0` -/
theorem ctor_reject (α : Type) [Add α] [Sub α] [Mul α] [Div α] [Neg α] [NatCast α] [LT α] [DecidableLT α] [LE α]
    [DecidableLE α] [BEq α] [FloatLike α] [Transc α] :
    (∃ e, minCore (α := α) 0 = .error e) ∧ (∃ e, maxCore (α := α) 0 = .error e) ∧ (∃ e, welfordCore (α := α) 0 = .error e) :=
  ⟨⟨_, rfl⟩, ⟨_, rfl⟩, ⟨_, rfl⟩⟩

end SF.C02
