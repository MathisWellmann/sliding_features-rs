import SF.Props.C04
import SF.Props.C10
import SF.Props.C05
import SF.Props.C06
import SF.Lemmas.Invariance
import SF.Lemmas.FoldInvariance
import SF.Lemmas.FlexInvariance
import Mathlib.Data.List.Induction
/-
  C12 — Normalised indicators are invariant to units, offset and sign.
  Stated on the batch definitions (equal to the state machines by C02 / C04 / C05 / C06 / C11 / C13) for all a > 0, all b, every N and
  every history.  Views covered: Sma, Ema, Cumulative (homogeneity), Min / Max (homogeneity and the Min/Max swap
  under negation), LnReturn and Drawdown (scale invariance), HLNormalizer (affine invariance, negation), NET (affine invariance,
  negation), BinaryEntropy, Rsi, MyRSI (incl. held values), CenterOfGravity (scale invariance); WelfordOnline (scales with
  the unit, ignores an offset), Vsct (affine invariance, negation), Vst (scale invariance off flat windows, negation), CTI
  (affine invariance, negation, at ℝ), Roc and LaguerreRSI (scale invariance, held values included), TrendFlex / ReFlex (scale
  invariance and negation, at ℝ), EhlersFisherTransform (affine invariance, any smoothing average).  Homogeneity of "every linear filter"
  (SuperSmoother, LaguerreFilter, RoofingFilter, CyberCycle, Alma) is the case b = 0 of C10's superposition.
  Rsi ↦ 100 − Rsi and MyRSI ↦ −MyRSI are C05's negation symmetry.
-/
namespace SF.C12
open SF.Spec SF.Invar
set_option linter.unusedSectionVars false
variable {α : Type} [Field α] [LinearOrder α] [IsStrictOrderedRing α] [FloatLike α] [ExactScalar α]

theorem sma_scale (N : Nat) (hN : 0 < N) (a : α) (xs : List α) :
    Spec.sma N (xs.map fun x => a * x) = (Spec.sma N xs).map fun v => a * v := by
  simpa using C04.sma_affine N hN a 0 xs

theorem ema_scale (N : Nat) (alpha a : α) (xs : List α) :
    Spec.ema N alpha (xs.map fun x => a * x) = (Spec.ema N alpha xs).map fun v => a * v := by
  simpa using C04.ema_affine N alpha a 0 xs

theorem cumulative_scale (N : Nat) (a : α) (xs : List α) :
    Spec.cumulative N (xs.map fun x => a * x) = (Spec.cumulative N xs).map fun v => a * v := by
  simp only [Spec.cumulative, List.isEmpty_map, lastN_map, sumL_map_mul, apply_ite (Option.map _), Option.map_none,
    Option.map_some]

/-- Min and Max scale by a > 0 (indeed commute with every monotone map, e.g. x ↦ a·x + b) -/
theorem min_scale (N : Nat) (a b : α) (ha : 0 < a) (xs : List α) :
    Spec.wmin N (xs.map fun x => a * x + b) = (Spec.wmin N xs).map fun v => a * v + b := by
  simp only [Spec.wmin, lastN_map, minL_map_of_monotone _ (affine_strictMono a b ha).monotone]

theorem max_scale (N : Nat) (a b : α) (ha : 0 < a) (xs : List α) :
    Spec.wmax N (xs.map fun x => a * x + b) = (Spec.wmax N xs).map fun v => a * v + b := by
  simp only [Spec.wmax, lastN_map, maxL_map_of_monotone _ (affine_strictMono a b ha).monotone]

/-- negating the input swaps Min with −Max -/
theorem min_neg (N : Nat) (xs : List α) :
    Spec.wmin N (xs.map fun x => -x) = (Spec.wmax N xs).map fun v => -v := by
  simp only [Spec.wmin, Spec.wmax, lastN_map, minL_map_of_antitone _ fun _ _ h => neg_le_neg h]

theorem max_neg (N : Nat) (xs : List α) :
    Spec.wmax N (xs.map fun x => -x) = (Spec.wmin N xs).map fun v => -v := by
  simp only [Spec.wmin, Spec.wmax, lastN_map, maxL_map_of_antitone _ fun _ _ h => neg_le_neg h]

theorem lnReturn_scale [Transc α] (a : α) (ha : a ≠ 0) (xs : List α) :
    Spec.lnReturn (xs.map fun x => a * x) = Spec.lnReturn xs := by
  simp only [Spec.lnReturn, ← List.map_reverse]
  rcases xs.reverse with _ | ⟨x, _ | ⟨p, r⟩⟩
  · rfl
  · rfl
  · simp only [List.map_cons, mul_div_mul_left _ _ ha]

theorem drawdown_scale (a : α) (ha : 0 < a) (xs : List α) :
    Spec.drawdown (xs.map fun x => a * x) = Spec.drawdown xs := by
  have hlt : ∀ p x : α, (a * p < a * x) ↔ (p < x) := fun p x => mul_lt_mul_iff_right₀ ha
  -- the fold's state (peak, largest decline) ↦ (a·peak, largest decline)
  have key : Rolling.ddFold (xs.map fun x => a * x) = ((Rolling.ddFold xs).1.map (a * ·), (Rolling.ddFold xs).2) := by
    refine foldl_map_hom (fun s : Option α × α => (s.1.map (a * ·), s.2)) _ (fun s x => ?_) xs (none, nat 0)
    obtain ⟨_ | p, d⟩ := s
    · simp only [Option.map_none, Option.map_some, ← mul_sub, mul_div_mul_left _ _ ha.ne']
    · simp only [Option.map_some, hlt, apply_ite (a * ·)]
      split <;> simp only [← mul_sub, mul_div_mul_left _ _ ha.ne']
  rw [Rolling.drawdown_eq_fold, Rolling.drawdown_eq_fold, key]

theorem hln_affine (N : Nat) (a b : α) (ha : 0 < a) (xs : List α) :
    Spec.hln N (xs.map fun x => a * x + b) = Spec.hln N xs := by
  have hf := (affine_strictMono a b ha).monotone
  simp only [Spec.hln, lastN_map, minL_map_of_monotone _ hf, maxL_map_of_monotone _ hf, List.getLast?_map]
  rcases minL (lastN N xs) with _ | lo <;> rcases maxL (lastN N xs) with _ | hi <;> rcases xs.getLast? with _ | x
  -- the formula is evaluated only when there are a minimum, a maximum and a newest value; otherwise both sides are `some 0`
  case some.some.some =>
    simp only [Option.map_some, beq_iff_eq, add_left_inj, mul_right_inj' ha.ne', mul_div_assoc,
      minmax_affine a b lo hi x ha.ne']
  all_goals rfl

theorem hln_neg (N : Nat) (xs : List α) :
    Spec.hln N (xs.map fun x => -x) = (Spec.hln N xs).map fun v => -v := by
  have hf : Antitone fun x : α => -x := fun _ _ h => neg_le_neg h
  simp only [Spec.hln, lastN_map, minL_map_of_antitone _ hf, maxL_map_of_antitone _ hf, List.getLast?_map]
  rcases minL (lastN N xs) with _ | lo <;> rcases maxL (lastN N xs) with _ | hi <;> rcases xs.getLast? with _ | x
  -- as in `hln_affine`; the minimum of −x is −hi, the maximum −lo
  case some.some.some =>
    simp only [Option.map_some, nat_eq, Nat.cast_zero]
    by_cases he : hi = lo
    · simp [he]
    · have hd : hi - lo ≠ 0 := sub_ne_zero.2 he
      have hd' : -lo - -hi ≠ 0 := by rwa [neg_sub_neg]
      simp only [beq_iff_eq, neg_inj, he, Ne.symm he, if_false, Option.some.injEq]
      field_simp
      ring
  all_goals simp only [Option.map_some, Option.map_none, nat_eq, Nat.cast_zero, neg_zero]

/-! ### NET (Kendall): order-only (`C06.kendall_order_only`), so invariant under x ↦ a·x + b (a > 0); negated by negation -/
theorem net_affine (N : Nat) (a b : α) (ha : 0 < a) (xs : List α) :
    Spec.net N (xs.map fun x => a * x + b) = Spec.net N xs := by
  simp only [Spec.net, lastN_map, List.length_map, C06.kendall_order_only _ (affine_strictMono a b ha)]

theorem net_neg (N : Nat) (xs : List α) :
    Spec.net N (xs.map fun x => -x) = (Spec.net N xs).map fun v => -v := by
  simp only [Spec.net, lastN_map, List.length_map, C06.kendall_neg, apply_ite (Option.map _), Option.map_none, Option.map_some]

/-! ### BinaryEntropy: only signs matter -/
theorem entropy_scale [Transc α] (N : Nat) (a : α) (ha : 0 < a) (xs : List α) :
    Spec.entropy N (xs.map fun x => a * x) = Spec.entropy N xs := by
  simp only [Spec.entropy, lastN_map, List.isEmpty_map, List.length_map, List.filter_map]
  have : ((fun x : α => decide (nat 0 ≤ x)) ∘ fun x => a * x) = fun x : α => decide (nat 0 ≤ x) := by
    funext x; simp only [Function.comp, nat_eq, Nat.cast_zero]
    congr 1; exact propext (mul_nonneg_iff_of_pos_left ha)
  rw [this]

/-! ### Rsi, MyRSI: ratios of sums of changes -/
/-- Rsi is unchanged by a change of unit -/
theorem rsi_scale (N : Nat) (a : α) (ha : 0 < a) (xs : List α) :
    Spec.rsi N (xs.map fun x => a * x) = Spec.rsi N xs := by
  simp only [Spec.rsi, List.length_map, List.isEmpty_map, gains_scale N a ha.le, losses_scale N a ha.le, beq_iff_eq,
    nat_eq, Nat.cast_zero, mul_eq_zero, ha.ne', false_or, ← mul_add, mul_left_comm _ a, mul_div_mul_left _ _ ha.ne']

/-- MyRSI is unchanged by a change of unit (including the values it holds on flat windows) -/
theorem myRsiHold_scale (N : Nat) (a : α) (ha : 0 < a) (xs : List α) :
    Spec.myRsiHold N (xs.map fun x => a * x) = Spec.myRsiHold N xs := by
  induction xs using List.reverseRecOn with
  | nil => rfl
  | append_singleton xs x ih =>
    rw [MyRsi.myRsiHold_snoc, List.map_append, List.map_singleton, MyRsi.myRsiHold_snoc, ← ih, ← List.map_singleton,
      ← List.map_append]
    simp only [gains_scale N a ha.le, losses_scale N a ha.le, ← mul_add, ← mul_sub, mul_eq_zero, ha.ne', false_or,
      mul_div_mul_left _ _ ha.ne']

theorem myrsi_scale (N : Nat) (a : α) (ha : 0 < a) (xs : List α) :
    Spec.myRsi N (xs.map fun x => a * x) = Spec.myRsi N xs := by
  simp only [Spec.myRsi, List.length_map, myRsiHold_scale N a ha]

/-! ### CenterOfGravity: a ratio of two sums that both scale -/
theorem cog_scale (N : Nat) (a : α) (ha : 0 < a) (xs : List α) :
    Spec.cog N (xs.map fun x => a * x) = Spec.cog N xs := by
  simp only [Cog.spec_eq_wsum, lastN_map, List.map_eq_nil_iff, List.length_map, sumL_map_mul, Cog.wsum_map_mul,
    mul_eq_zero, ha.ne', false_or, mul_div_mul_left _ _ ha.ne']

section more_field
variable [Transc α]
/-- **Roc is invariant under x ↦ a·x (a ≠ 0)**, held outputs included -/
theorem roc_scale (N : Nat) (a : α) (ha : a ≠ 0) (xs : List α) : Spec.roc N (xs.map fun x => a * x) = Spec.roc N xs := by
  cases xs with
  | nil => rfl
  | cons x0 r =>
    rw [List.map_cons, Roc.roc_eq_fold, Roc.roc_eq_fold, ← List.map_cons]
    have key := foldl_map_hom (fun s : Option α × List α => (s.1, s.2.map fun x => a * x)) _
      (FoldInv.roc_step_scale N a ha x0) (x0 :: r) (none, [])
    simp only [List.map_nil] at key
    rw [key]

/-- **LaguerreRSI is invariant under x ↦ a·x, a > 0**, held outputs included -/
theorem laguerreRsi_scale (N : Nat) (a : α) (ha : 0 < a) (xs : List α) :
    Spec.laguerreRsi N (xs.map fun x => a * x) = Spec.laguerreRsi N xs := by
  rw [LagRsi.spec_eq, LagRsi.spec_eq, LagRsi.specState, LagRsi.specState, ← List.map_drop]
  have key := foldl_map_hom (fun s : (α × α × α × α) × Option α => ((a * s.1.1, a * s.1.2.1, a * s.1.2.2.1, a * s.1.2.2.2), s.2))
    _ (FoldInv.lagRsi_step_scale (nat 2 / (nat N + nat 1)) a ha) (xs.drop 2) ((nat 0, nat 0, nat 0, nat 0), none)
  simp only [nat_eq, Nat.cast_zero, mul_zero] at key ⊢
  rw [key]

/-- **EhlersFisherTransform is invariant under x ↦ a·x + b, a > 0**, for every smoothing average -/
theorem fisher_affine (N : Nat) (ma : List α → Option α) (a b : α) (ha : 0 < a) (xs : List α) :
    Spec.fisher N ma (xs.map fun x => a * x + b) = Spec.fisher N ma xs := by
  rw [Eft.fisher_eq_fold, Eft.fisher_eq_fold]
  have key := foldl_map_hom (fun s : List α × Option α × List α => (s.1.map (fun x => a * x + b), s.2.1, s.2.2))
    _ (FoldInv.fishStep_affine N ma a b ha) xs ([], none, [])
  simp only [List.map_nil] at key
  simp only [Eft.fishFold]
  rw [key]
end more_field

/-! ### "every linear filter scales by a": homogeneity of the recursive / weighted linear views, as the special case
b = 0 of superposition (C10).  Any a (also 0 and negative), every window length, every history. -/
theorem superSmoother_scale [Transc α] (N : Nat) (a : α) (xs : List α) :
    Spec.superSmoother N (xs.map fun x => a * x) = (Spec.superSmoother N xs).map fun v => a * v := by
  rw [← Linear.lin_self_scale, C10.superSmoother_linear N a 0 xs xs rfl, Linear.olin_self_scale]

theorem laguerre_scale [Transc α] (g a : α) (xs : List α) :
    Spec.laguerreFilter g (xs.map fun x => a * x) = (Spec.laguerreFilter g xs).map fun v => a * v := by
  rw [← Linear.lin_self_scale, C10.laguerre_linear g a 0 xs xs rfl, Linear.olin_self_scale]

theorem roofing_scale [Transc α] (N M' : Nat) (a : α) (xs : List α) :
    Spec.roofing N M' (xs.map fun x => a * x) = (Spec.roofing N M' xs).map fun v => a * v := by
  rw [← Linear.lin_self_scale, C10.roofing_linear N M' a 0 xs xs rfl, Linear.olin_self_scale]

theorem cyberCycle_scale [Transc α] (N : Nat) (a : α) (xs : List α) :
    Spec.cyberCycle N (xs.map fun x => a * x) = (Spec.cyberCycle N xs).map fun v => a * v := by
  rw [← Linear.lin_self_scale, C10.cyberCycle_linear N a 0 xs xs rfl, Linear.olin_self_scale]

/-- Alma (under C10's hypothesis that the window's weight sum is non-zero — true for the positive Gaussian weights) -/
theorem alma_scale [Transc α] (N : Nat) (sigma offset a : α) (xs : List α)
    (hden : ∀ zs : List α, zs.length = xs.length → zs ≠ [] →
      sumL ((lastN N zs).zipIdx.map fun (_, j) => gauss (offset * (nat N + nat 1)) (nat N / sigma)
        (min (zs.length - (lastN N zs).length + j) (N - 1))) ≠ 0) :
    Spec.alma N sigma offset (xs.map fun x => a * x) = (Spec.alma N sigma offset xs).map fun v => a * v := by
  rw [← Linear.lin_self_scale]
  -- `C10.alma_linear` speaks of C10's own `lin` / `olin` (same bodies as Linear's)
  change Spec.alma N sigma offset (C10.lin a 0 xs xs) = _
  rw [C10.alma_linear N sigma offset a 0 xs xs rfl]
  exact Linear.olin_self_scale a _

/-- … and the state machines themselves: e.g. the CyberCycle view of a·x (N ≥ 6), through C11 -/
theorem cyberCycle_view_scale [Transc α] (N : Nat) (hN : 6 ≤ N) (a : α) (xs : List α) :
    (ccCoreU (α := α) N).outAfter (xs.map fun x => a * x) = .ok ((Spec.cyberCycle N xs).map fun v => a * v) := by
  rw [C11.cyberCycle_eq N hN, cyberCycle_scale]

end SF.C12

namespace SF.C12.Real
open SF.Spec
/-- **WelfordOnline scales with the unit and ignores an offset**: std of the window of a·x + b is a·std, a > 0 -/
theorem welford_affine (N : Nat) (a b : ℝ) (ha : 0 < a) (xs : List ℝ) :
    Spec.welford N (xs.map fun x => a * x + b) = (Spec.welford N xs).map fun s => a * s := by
  rw [Inv2.welford_affine, abs_of_pos ha]

/-- **Vsct is invariant under x ↦ a·x + b (a > 0)**, flat windows included -/
theorem vsct_affine (N : Nat) (hN : 0 < N) (a b : ℝ) (ha : 0 < a) (xs : List ℝ) :
    Spec.vsct N (xs.map fun x => a * x + b) = Spec.vsct N xs := by
  simp [Inv2.vsct_affine N hN a b ha.ne', abs_of_pos ha, ha.ne']

/-- **negating the input negates Vsct** -/
theorem vsct_neg (N : Nat) (hN : 0 < N) (xs : List ℝ) :
    Spec.vsct N (xs.map fun x => -x) = (Spec.vsct N xs).map fun v => -v := by
  simpa using Inv2.vsct_affine N hN (-1) 0 (by norm_num) xs

/-- **Vst is invariant under x ↦ a·x (a > 0) whenever the window is not flat** (on a flat window it reports the value itself) -/
theorem vst_scale (N : Nat) (a : ℝ) (ha : 0 < a) (xs : List ℝ) (sd : ℝ) (hsd : Spec.welford N xs = some sd) (hne : sd ≠ 0) :
    Spec.vst N (xs.map fun x => a * x) = Spec.vst N xs := by
  simp [Inv2.vst_affine N a ha.ne' xs sd hsd hne, abs_of_pos ha, ha.ne']

/-- **negating the input negates Vst** (also on a flat window, where both sides report the value itself) -/
theorem vst_neg (N : Nat) (xs : List ℝ) (hx : xs ≠ []) :
    Spec.vst N (xs.map fun x => -x) = (Spec.vst N xs).map fun v => -v := by
  have hw := Inv2.welford_affine N (-1) 0 xs
  simp only [neg_one_mul, add_zero, abs_neg, abs_one, one_mul, Option.map_id'] at hw
  simp only [Spec.vst, hw, List.getLast?_map]
  -- whatever the std and the newest value are, both sides are the same expression up to −(x/sd) = (−x)/sd, −0 = 0
  cases Spec.welford N xs <;> cases xs.getLast? <;>
    simp only [Option.map_some, Option.map_none, neg_div, neg_ite, nat_eq, Nat.cast_zero, neg_zero]

/-- **CTI (on a full window: the Pearson index) is invariant under x ↦ a·x + b, a > 0** -/
theorem cti_affine (N : Nat) (a b : ℝ) (ha : 0 < a) (xs : List ℝ) :
    Spec.cti N (xs.map fun x => a * x + b) = Spec.cti N xs := Inv2.cti_affine N a b ha xs

/-- **negating the input negates CTI** -/
theorem cti_neg (N : Nat) (xs : List ℝ) :
    Spec.cti N (xs.map fun x => -x) = (Spec.cti N xs).map fun v => -v := by
  simp only [Spec.cti, List.length_map, lastN_map, Inv2.pearson_neg, apply_ite (Option.map _), Option.map_none, Option.map_some]

/-- **TrendFlex is invariant under x ↦ a·x, a > 0** -/
theorem trendFlex_scale (N : Nat) (a : ℝ) (ha : 0 < a) (xs : List ℝ) :
    Spec.trendFlex N (xs.map fun x => a * x) = Spec.trendFlex N xs := by
  rw [TrendFlex.trendFlex_eq_specG, TrendFlex.trendFlex_eq_specG]
  simpa [abs_of_pos ha, ha.ne'] using FlexInv.specG_scale false _ (FlexInv.D_scale N) N a ha.ne' xs

/-- **ReFlex is invariant under x ↦ a·x, a > 0**, held outputs included -/
theorem reFlex_scale (N : Nat) (a : ℝ) (ha : 0 < a) (xs : List ℝ) :
    Spec.reFlex N (xs.map fun x => a * x) = Spec.reFlex N xs := by
  rw [ReFlex.reFlex_eq_specG, ReFlex.reFlex_eq_specG]
  simpa [abs_of_pos ha, ha.ne'] using FlexInv.specG_scale true _ (FlexInv.rD_scale N) N a ha.ne' xs

/-- **negating the input negates TrendFlex** -/
theorem trendFlex_neg (N : Nat) (xs : List ℝ) :
    Spec.trendFlex N (xs.map fun x => -x) = (Spec.trendFlex N xs).map fun v => -v := by
  rw [TrendFlex.trendFlex_eq_specG, TrendFlex.trendFlex_eq_specG]
  simpa using FlexInv.specG_scale false _ (FlexInv.D_scale N) N (-1) (by norm_num) xs

/-- **negating the input negates ReFlex**, held outputs included -/
theorem reFlex_neg (N : Nat) (xs : List ℝ) :
    Spec.reFlex N (xs.map fun x => -x) = (Spec.reFlex N xs).map fun v => -v := by
  rw [ReFlex.reFlex_eq_specG, ReFlex.reFlex_eq_specG]
  simpa using FlexInv.specG_scale true _ (FlexInv.rD_scale N) N (-1) (by norm_num) xs
end SF.C12.Real
