import SF.Props.C10
import SF.Lemmas.LagfStable
import SF.Lemmas.FlexBound
import SF.Lemmas.ChainBound
/-
  C09 — Recursive filters are stable and have fading memory for every window length.

  * Ema, every N ≥ 1: BIBO with a bound that does not depend on the stream length (|x_k| ≤ B for all k ⇒ |e_t| ≤ B for all t),
    and fading memory: two streams that coincide from some point on have outputs whose difference is multiplied by
    (1 − w) at every further step, 0 ≤ 1 − w < 1  (`emaRec_diff_decay`), i.e. converges to 0 geometrically.
  * a generic one-pole lemma (`onePole_*`) about the sequence v(t+1) = p·v(t) + u(t+1), |p| ≤ ρ < 1: bounded by B/(1−ρ), and
    geometric decay of the difference of two responses.  It stands by itself: no view is derived from it here.
  * coefficient facts for every admissible N (at ℝ): 0 < a1 = exp(−c/N) < 1 for both smoother constants, so the pole
    radius of SuperSmoother and of the TrendFlex/ReFlex smoother is < 1; 0 < 2/(N+1) ≤ 1 for Ema / CyberCycle / LaguerreRSI.
  * SuperSmoother, every N ≥ 1, at ℝ: BIBO with the length-independent bound |c1|·B/(1−a1)² and geometric fading memory
    (contraction factor (1+a1)/2 per step once the streams have merged), via the factorisation of the two-pole section
    through its complex pole a1·e^{iθ}.  The smoother inside TrendFlex / ReFlex: BIBO with the bound of the same form
    (`flex_smoother_bibo`); no decay statement is instantiated for it.  `twoPole_bibo` is the generic statement for the smoother
    recursion `Spec.smoothSeq`, any c1, any pole a·e^{iθ}; the high-passes of RoofingFilter / CyberCycle have another input
    term and are treated separately, `DoublePole`.
  * CyberCycle (any ordered field): |output| ≤ (N+1)²·B for ever, and fading memory with contraction factor N/(N+1) per
    step from five steps after two streams have merged (`cyberCycle_bibo`, `cyberCycle_fading`): a double real pole
    p = 1 − 2/(N+1) is two cascaded one-pole sections.
  * RoofingFilter (ℝ): |1 − α| < 1 for EVERY window length the constructor accepts (N ≥ 2; N = 2 has a negative pole), hence
    the high-pass and the whole filter are BIBO with a length-independent bound (`roofing_pole_inside`, `roofing_bibo`).
  * LaguerreFilter (any ordered field, 0 ≤ γ < 1): |output| ≤ ((1+γ)/(1−γ))³·B for ever (`laguerre_bibo`).
  * TrendFlex / ReFlex (ℝ): |output| ≤ 5 for every N, EVERY input (bounded or not) and every stream length, because the
    mean square dominates 0.04·d² (`trendFlex_bound`, `reFlex_bound`).  LaguerreRSI ∈ [0,1] and |Fisher| ≤ ln 199 are C07.
  * LaguerreFilter also has geometric fading memory: a weighted norm of the four stage differences contracts by (1+γ)/2 per
    step once the inputs coincide (`laguerre_fading`).
  * RoofingFilter (ℝ) has geometric fading memory for every N ≥ 2, M ≥ 1: the smoother's and the high-pass's Lyapunov
    functionals contract jointly (`roofing_fading`, cascade of two contracting sections, `DcGain.roof_joint_decay`).
  Not proved (decided by the common-tail runs of `./check C09`): the geometric convergence of the NORMALISED outputs of
  TrendFlex / ReFlex / LaguerreRSI / EhlersFisherTransform (ratios whose denominators themselves fade).
-/
namespace SF.C09
open SF.Spec
set_option linter.unusedSectionVars false
variable {α : Type} [Field α] [LinearOrder α] [IsStrictOrderedRing α] [FloatLike α] [ExactScalar α]

/-- **Ema is BIBO stable with a length-independent bound**: inputs in [−B, B] give outputs in [−B, B], for ever -/
theorem ema_bibo (N : Nat) (hN : 0 < N) (B : α) (xs : List α) (hx : ∀ x ∈ xs, |x| ≤ B) (v : α)
    (h : Spec.ema N 2 xs = some v) : |v| ≤ B := by
  have := C04.ema_interval N hN xs (-B) B (fun x hx' => (abs_le.mp (hx x hx')).1) (fun x hx' => (abs_le.mp (hx x hx')).2) v h
  exact abs_le.mpr this

/-- the recursion applied to two different starting values and the same further inputs: the difference is scaled by
(1 − w) per step -/
theorem foldl_diff (w e e' : α) (t : List α) :
    t.foldl (fun e x => w * x + (nat 1 - w) * e) e - t.foldl (fun e x => w * x + (nat 1 - w) * e) e'
      = (1 - w) ^ t.length * (e - e') := by
  induction t generalizing e e' with
  | nil => simp
  | cons x t ih =>
    simp only [List.foldl_cons, List.length_cons]
    rw [ih]; simp only [nat_eq, Nat.cast_one]; ring

/-- **fading memory of Ema**: histories `p ++ t` and `p' ++ t` (non-empty prefixes, common tail `t`): the outputs
differ by (1 − w)^{|t|} times the difference at the merge point — geometric convergence, no persistence, no growth -/
theorem emaRec_diff_decay (w : α) (p p' t : List α) (e e' : α) (he : emaRec w p = some e) (he' : emaRec w p' = some e') :
    ∃ u v, emaRec w (p ++ t) = some u ∧ emaRec w (p' ++ t) = some v ∧ u - v = (1 - w) ^ t.length * (e - e') := by
  cases p with
  | nil => simp [emaRec] at he
  | cons x0 r =>
    cases p' with
    | nil => simp [emaRec] at he'
    | cons y0 r' =>
      simp only [emaRec, Option.some.injEq] at he he'
      subst he; subst he'
      refine ⟨_, _, rfl, rfl, ?_⟩
      show List.foldl _ x0 (r ++ t) - List.foldl _ y0 (r' ++ t) = _
      rw [List.foldl_append, List.foldl_append]
      exact foldl_diff w _ _ t

/-- with the default weight the contraction factor satisfies 0 ≤ 1 − w < 1 for every N ≥ 1 -/
theorem ema_contraction (N : Nat) (hN : 0 < N) :
    0 ≤ 1 - (2 : α) / ((N : α) + 1) ∧ 1 - (2 : α) / ((N : α) + 1) < 1 :=
  Stable.one_sub_two_div_succ N hN

/-! ### a generic one-pole section -/
/-- v(0) = u(0), v(t+1) = p·v(t) + u(t+1) -/
def onePole (p : α) (u : Nat → α) : Nat → α
  | 0 => u 0
  | t + 1 => p * onePole p u t + u (t + 1)

/-- bounded input ⇒ output bounded by B/(1−ρ), independently of t -/
theorem onePole_bibo (p ρ B : α) (hρ0 : 0 ≤ ρ) (hρ1 : ρ < 1) (hp : |p| ≤ ρ) (u : Nat → α) (hu : ∀ t, |u t| ≤ B) (t : Nat) :
    |onePole p u t| ≤ B / (1 - ρ) := by
  induction t with
  | zero =>
    have hB : 0 ≤ B := le_trans (abs_nonneg _) (hu 0)
    refine (hu 0).trans ((le_div_iff₀ (by linarith)).2 ?_)
    have := mul_nonneg hB hρ0
    linarith
  | succ t ih =>
    have hstep : |p * onePole p u t + u (t + 1)| ≤ ρ * |onePole p u t| + |u (t + 1)| := by
      refine (abs_add_le _ _).trans (add_le_add ?_ le_rfl)
      rw [abs_mul]
      exact mul_le_mul_of_nonneg_right hp (abs_nonneg _)
    exact Stable.section_bound ρ B hρ0 hρ1 hstep ih (hu _)

/-- once the inputs agree, the difference of two one-pole responses decays like p^k -/
theorem onePole_decay (p : α) (u u' : Nat → α) (t0 : Nat) (h : ∀ t, t0 < t → u t = u' t) (k : Nat) :
    onePole p u (t0 + k) - onePole p u' (t0 + k) = p ^ k * (onePole p u t0 - onePole p u' t0) := by
  induction k with
  | zero => simp
  | succ k ih =>
    have e : t0 + (k + 1) = (t0 + k) + 1 := by omega
    rw [e]; simp only [onePole]
    rw [h (t0 + k + 1) (by omega)]
    have : p * onePole p u (t0 + k) + u' (t0 + k + 1) - (p * onePole p u' (t0 + k) + u' (t0 + k + 1))
        = p * (onePole p u (t0 + k) - onePole p u' (t0 + k)) := by ring
    rw [this, ih]; ring

/-! ### "… and any chain built from them": stability composes along chains -/
/-- **BIBO stability composes along a chain**, for ANY inner view `A` that realises a batch function `specA` and ANY outer
core `B`: if everything `A` reports on prefixes of the raw input `xs` is bounded by `B1`, and `B` — fed ANY values bounded
by `B1` — only reports values bounded by `B2`, then the chain `B(A(·))` only reports values bounded by `B2` on `xs`.
The bounds are whatever the two stages guarantee; they do not depend on the stream length if the stages' bounds do not.
By induction this covers chains of any depth (the chain is again a view that realises a batch function). -/
theorem chain_bibo (A : View α) (specA : List α → Option α) (hR : Eft.Realises A specA) (B : Core α) (B1 B2 : α)
    (xs : List α) (hA : ∀ pre, pre <+: xs → ∀ y, specA pre = some y → |y| ≤ B1)
    (hB : ∀ ys : List α, (∀ y ∈ ys, |y| ≤ B1) → ∀ v, B.outAfter ys = .ok (some v) → |v| ≤ B2)
    (s : A.σ × B.σ) (hs : (wrap A B).run (A.init, B.init) xs = .ok s) (v : α) (hv : (wrap A B).last s = .ok (some v)) :
    |v| ≤ B2 := by
  apply ChainBound.chain_guarantee A B (fun y => |y| ≤ B1) (fun v => |v| ≤ B2) xs (allFinite_exact xs) ?_ hB s hs v hv
  intro y ⟨pre, _, hp, a', hr, hl⟩
  obtain ⟨m, hm, hlm⟩ := hR pre
  rw [hr] at hm; cases hm
  rw [hl] at hlm
  exact hA pre hp y (by simpa using hlm.symm)

/-- instance: **Ema over Ema over … any BIBO view** keeps the inner bound (Ema never leaves the interval of its inputs) -/
theorem ema_over_bibo (A : View α) (specA : List α → Option α) (hR : Eft.Realises A specA) (N : Nat) (hN : 0 < N) (B1 : α)
    (xs : List α) (hA : ∀ pre, pre <+: xs → ∀ y, specA pre = some y → |y| ≤ B1)
    (s : A.σ × (emaCore (α := α) N 2).σ) (hs : (wrap A (emaCore N 2)).run (A.init, (emaCore (α := α) N 2).init) xs = .ok s)
    (v : α) (hv : (wrap A (emaCore N 2)).last s = .ok (some v)) : |v| ≤ B1 := by
  refine chain_bibo A specA hR (emaCore N 2) B1 B1 xs hA ?_ s hs v hv
  intro ys hys w hw
  rw [C04.ema_eq N hN] at hw
  exact ema_bibo N hN B1 ys hys w (by simpa using hw)

/-! ### CyberCycle and LaguerreFilter (any ordered field) -/
variable [Transc α]

/-- **CyberCycle is BIBO stable for every N ≥ 1**: inputs in [−B, B] give |output| ≤ (N+1)²·B, however long the stream -/
theorem cyberCycle_bibo (N : Nat) (hN : 1 ≤ N) (B : α) (xs : List α) (hx : ∀ x ∈ xs, |x| ≤ B) (v : α)
    (h : Spec.cyberCycle N xs = some v) : |v| ≤ ((N : α) + 1) * ((N : α) + 1) * B := by
  have hB : 0 ≤ B := by
    cases xs with
    | nil => simp [Spec.cyberCycle] at h
    | cons x r => exact le_trans (abs_nonneg _) (hx x (by simp))
  rw [CC.cyberCycle_unfold] at h
  have := (DoublePole.C_bibo N hN B xs hx hB xs.length).1 v (List.mem_of_mem_head? h)
  have hpos : (0 : α) < (N : α) + 1 := by positivity
  have e : 4 * B / (1 - (1 - 2 / ((N : α) + 1))) / (1 - (1 - 2 / ((N : α) + 1))) = ((N : α) + 1) * ((N : α) + 1) * B := by
    rw [sub_sub_cancel, div_div_eq_mul_div, div_div_eq_mul_div]
    ring
  rwa [e] at this

/-- … and so is the view itself (state machine), through C11, for every window its constructor accepts -/
theorem cyberCycle_view_bibo (N : Nat) (hN : 6 ≤ N) (B : α) (xs : List α) (hx : ∀ x ∈ xs, |x| ≤ B) (v : α)
    (h : (ccCoreU (α := α) N).outAfter xs = .ok (some v)) : |v| ≤ ((N : α) + 1) * ((N : α) + 1) * B :=
  cyberCycle_bibo N (by omega) B xs hx v (Except.ok.inj ((C11.cyberCycle_eq N hN xs).symm.trans h))

/-- **fading memory of CyberCycle**: histories `xs ++ t`, `ys ++ t`, |xs| = |ys|.  With d(n) the difference of the two
outputs at time n, p = 1 − 2/(N+1) and V(n) = |d(n+1)| + (2p/(1−p))·|d(n+1) − p·d(n)|: from five steps after the merge
V shrinks by (1+p)/2 = N/(N+1) per step and dominates |d| — geometric convergence, no persistence, for every N ≥ 1.
The output at time n is `DoublePole.cAt N _ n`, the value reported after the first n + 1 values (`DoublePole.cAt_spec`). -/
theorem cyberCycle_fading (N : Nat) (hN : 1 ≤ N) (xs ys t : List α) (hl : xs.length = ys.length) (m k : Nat)
    (hm1 : xs.length + 5 ≤ m + 2) (hm2 : N ≤ m + 3) :
    let p : α := 1 - 2 / ((N : α) + 1)
    let d := fun n => DoublePole.cAt N (xs ++ t) n - DoublePole.cAt N (ys ++ t) n
    let V := fun n => |d (n + 1)| + 2 * p / (1 - p) * |d (n + 1) - p * d n|
    V (m + k) ≤ ((1 + p) / 2) ^ k * V m ∧ |d (m + k + 1)| ≤ V (m + k) := by
  intro p d V
  have hpole := Stable.one_sub_two_div_succ (α := α) N hN
  refine DoublePole.seq_decay p hpole.1 hpole.2 d m k fun n hn _ => ?_
  simp only [d]
  rw [DoublePole.cAt_rec N (xs ++ t) n (by omega), DoublePole.cAt_rec N (ys ++ t) n (by omega),
    CC.smS_common_tail xs ys t hl _ (by push_cast; omega), CC.smS_common_tail xs ys t hl _ (by push_cast; omega),
    CC.smS_common_tail xs ys t hl _ (by push_cast; omega)]
  ring

/-- the spec's output is the head of the sequence `CC.C`; `DoublePole.cAt N xs n` is the head of `CC.C N xs (n+1)`, i.e. what
the spec reports after the first n + 1 values of `xs` (`DoublePole.cAt_spec`) -/
theorem cyberCycle_cAt (N : Nat) (xs : List α) (hx : xs ≠ []) :
    Spec.cyberCycle N xs = (CC.C N xs xs.length).head? :=
  CC.cyberCycle_unfold N xs

/-- the contraction factor of CyberCycle is N/(N+1) < 1 -/
theorem cyberCycle_factor (N : Nat) (hN : 1 ≤ N) :
    (1 + (1 - 2 / ((N : α) + 1))) / 2 = (N : α) / ((N : α) + 1) ∧ (N : α) / ((N : α) + 1) < 1 := by
  have hN' : (1 : α) ≤ (N : α) := by exact_mod_cast hN
  have hpos : (0 : α) < (N : α) + 1 := by linarith
  constructor
  · field_simp; ring
  · rw [div_lt_one hpos]; linarith

/-- **LaguerreFilter is BIBO stable for every 0 ≤ γ < 1**: |output| ≤ κ³·B with κ = (1+γ)/(1−γ), however long the stream -/
theorem laguerre_bibo (g B : α) (hg0 : 0 ≤ g) (hg1 : g < 1) (xs : List α) (hx : ∀ x ∈ xs, |x| ≤ B) (v : α)
    (h : Spec.laguerreFilter g xs = some v) :
    |v| ≤ (1 + g) / (1 - g) * ((1 + g) / (1 - g) * ((1 + g) / (1 - g) * B)) := by
  cases xs with
  | nil => simp [Spec.laguerreFilter] at h
  | cons x0 r =>
    have hx0 := hx x0 (by simp)
    -- κ ≥ 1, so the four bounds increase: B ≤ κB ≤ κ²B ≤ κ³B
    have up : ∀ K : α, 0 ≤ K → K ≤ (1 + g) / (1 - g) * K := fun K hK =>
      le_mul_of_one_le_left hK (by rw [le_div_iff₀ (by linarith)]; linarith)
    have hB : 0 ≤ B := (abs_nonneg _).trans hx0
    have e1 := up B hB
    have e2 := up _ (hB.trans e1)
    have e3 := up _ ((hB.trans e1).trans e2)
    obtain ⟨b0, b1, b2, b3⟩ := LagfStable.ladder_bounds g B hg0 hg1 (x0, x0, x0, x0) r (fun y hy => hx y (by simp [hy]))
      hx0 (hx0.trans e1) (hx0.trans (e1.trans e2)) (hx0.trans (e1.trans (e2.trans e3)))
    simp only [Spec.laguerreFilter, Option.some.injEq] at h
    subst h
    simp only [nat_eq, Nat.cast_ofNat]
    refine (Stable.abs_tap_le _ _ _ _).trans ?_
    rw [div_le_iff₀ (by norm_num)]
    have c0 := b0.trans (e1.trans (e2.trans e3))
    have c1 := b1.trans (e2.trans e3)
    have c2 := b2.trans e3
    generalize (1 + g) / (1 - g) * ((1 + g) / (1 - g) * ((1 + g) / (1 - g) * B)) = K at c0 c1 c2 b3 ⊢
    linarith only [c0, c1, c2, b3]

theorem laguerre_view_bibo (g B : α) (hg0 : 0 ≤ g) (hg1 : g < 1) (xs : List α) (hx : ∀ x ∈ xs, |x| ≤ B) (v : α)
    (h : (lagfCore (α := α) g).outAfter xs = .ok (some v)) :
    |v| ≤ (1 + g) / (1 - g) * ((1 + g) / (1 - g) * ((1 + g) / (1 - g) * B)) :=
  laguerre_bibo g B hg0 hg1 xs hx v (Except.ok.inj ((C11.laguerreFilter_eq g xs).symm.trans h))

/-- **fading memory of LaguerreFilter**, every 0 ≤ γ < 1: two histories `x0 :: r1 ++ t` and `y0 :: r2 ++ t` that end in
the same values `t`.  With ε = (1−γ)/8, ρ = (1+γ)/2 < 1 and V the weighted norm |ΔL0| + ε|ΔL1| + ε²|ΔL2| + ε³|ΔL3| of the stage
differences at the merge point, the outputs differ by at most ρ^|t|·V/ε³: geometric convergence, nothing persists -/
theorem laguerre_fading (g : α) (hg0 : 0 ≤ g) (hg1 : g < 1) (x0 y0 : α) (r1 r2 t : List α) (v w : α)
    (hv : Spec.laguerreFilter g (x0 :: (r1 ++ t)) = some v) (hw : Spec.laguerreFilter g (y0 :: (r2 ++ t)) = some w) :
    |v - w| * (((1 - g) / 8) * ((1 - g) / 8) * ((1 - g) / 8))
      ≤ ((1 + g) / 2) ^ t.length *
        LagfStable.V ((1 - g) / 8) (LagfStable.D (lagLadder g (x0, x0, x0, x0) r1) (lagLadder g (y0, y0, y0, y0) r2)) := by
  simp only [Spec.laguerreFilter, Option.some.injEq] at hv hw
  have e1 : lagLadder g (x0, x0, x0, x0) (r1 ++ t) = lagLadder g (lagLadder g (x0, x0, x0, x0) r1) t := by
    simp only [lagLadder, List.foldl_append]
  have e2 : lagLadder g (y0, y0, y0, y0) (r2 ++ t) = lagLadder g (lagLadder g (y0, y0, y0, y0) r2) t := by
    simp only [lagLadder, List.foldl_append]
  rw [e1] at hv; rw [e2] at hw
  subst hv; subst hw
  simp only [nat_eq, Nat.cast_ofNat]
  exact le_trans (LagfStable.out_diff_le g hg0 hg1 _ _)
    (LagfStable.ladder_fading g hg0 hg1 _ _ t)

/-- the contraction factor and the norm weight of LaguerreFilter: 0 < (1−γ)/8 and (1+γ)/2 < 1 -/
theorem laguerre_factor (g : α) (hg0 : 0 ≤ g) (hg1 : g < 1) : 0 < (1 - g) / 8 ∧ 0 ≤ (1 + g) / 2 ∧ (1 + g) / 2 < 1 := by
  refine ⟨by linarith, by linarith, by linarith⟩

end SF.C09

namespace SF.C09.Real

/-- pole radius of SuperSmoother (c = 1.414·π) and of the TrendFlex/ReFlex smoother (c = 8.88442402435): for every
N ≥ 1, 0 < a1 = exp(−c/N) < 1 -/
theorem pole_radius (c : ℝ) (hc : 0 < c) (N : Nat) (hN : 0 < N) : 0 < Real.exp (-c / N) ∧ Real.exp (-c / N) < 1 :=
  SsStable.exp_neg_div_range c hc N hN

/-- the conjugate pole pair of the smoother has modulus a1 < 1: the characteristic polynomial z² − b1·z − c3 with
b1 = 2·a1·cos θ, c3 = −a1² has discriminant 4a1²(cos²θ − 1) ≤ 0 and product of roots a1² < 1 -/
theorem pole_product (a1 θ : ℝ) (h0 : 0 < a1) (h1 : a1 < 1) :
    (2 * a1 * Real.cos θ) ^ 2 + 4 * (-(a1 * a1)) ≤ 0 ∧ a1 * a1 < 1 := by
  constructor
  · rw [show (2 * a1 * Real.cos θ) ^ 2 + 4 * (-(a1 * a1)) = 4 * (a1 * a1) * (Real.cos θ ^ 2 - 1) by ring]
    exact mul_nonpos_of_nonneg_of_nonpos (by positivity) (sub_nonpos.2 (Real.cos_sq_le_one θ))
  · exact mul_lt_one_of_nonneg_of_lt_one_left h0.le h1 h1.le

/-- **SuperSmoother is BIBO stable for EVERY window length N ≥ 1, with a bound independent of the stream length**:
inputs in [−B, B] give |output| ≤ |c1|·B/(1−a1)², a1 = exp(−1.414·π/N) < 1 -/
theorem superSmoother_bibo (N : Nat) (hN : 0 < N) (B : ℝ) (xs : List ℝ) (hx : ∀ x ∈ xs, |x| ≤ B) (v : ℝ)
    (h : Spec.superSmoother N xs = some v) :
    |v| ≤ |(Spec.ssCoef (α := ℝ) N).c1| * B / (1 - SsStable.ssA N) ^ 2 := by
  have hB : 0 ≤ B := by
    cases xs with
    | nil => simp [Spec.superSmoother] at h; omega
    | cons x r => exact le_trans (abs_nonneg _) (hx x (by simp))
  have ha := SsStable.ssA_range N hN
  have hc := SsStable.ssCoef_form N
  have := TwoPole.smoothSeq_bibo (Spec.ssCoef (α := ℝ) N) (SsStable.ssA N) (44422 / 10000 / N) ha.1.le ha.2 hc.1 hc.2 B 0
    (by simpa using hB) xs hx
  simp only [Spec.superSmoother] at h
  split at h
  · simp at h
  · exact this v (List.mem_of_mem_head? (by simpa using h))

/-- … and so does the view itself (state machine), through C11 -/
theorem superSmoother_view_bibo (N : Nat) (hN : 0 < N) (B : ℝ) (xs : List ℝ) (hx : ∀ x ∈ xs, |x| ≤ B) (v : ℝ)
    (h : (ssCore (α := ℝ) N).outAfter xs = .ok (some v)) :
    |v| ≤ |(Spec.ssCoef (α := ℝ) N).c1| * B / (1 - SsStable.ssA N) ^ 2 :=
  superSmoother_bibo N hN B xs hx v (Except.ok.inj ((C11.superSmoother_eq N hN xs).symm.trans h))

/-- the smoother inside TrendFlex / ReFlex (first-value initial condition) is BIBO stable for every N ≥ 1 -/
theorem flex_smoother_bibo (N : Nat) (hN : 0 < N) (B : ℝ) (x0 : ℝ) (xs : List ℝ) (hx : ∀ x ∈ x0 :: xs, |x| ≤ B) :
    ∀ f ∈ Spec.smoothSeq (Spec.flexCoef (α := ℝ) N) x0 (x0 :: xs),
      |f| ≤ |(Spec.flexCoef (α := ℝ) N).c1| * B / (1 - SsStable.flexA N) ^ 2 := by
  have ha := SsStable.flexA_range N hN
  have hc := SsStable.flexCoef_form N
  exact TwoPole.smoothSeq_bibo (Spec.flexCoef (α := ℝ) N) (SsStable.flexA N) (444221201218 / 100000000000 / N) ha.1.le ha.2 hc.1 hc.2 B x0
    (hx x0 (by simp)) (x0 :: xs) hx

/-- the generic statement: the smoother recursion `Spec.smoothSeq` with ANY c1 and complex-conjugate (or double real) poles of
modulus a < 1 is BIBO -/
theorem twoPole_bibo (c : Spec.Coef ℝ) (a θ : ℝ) (ha0 : 0 ≤ a) (ha1 : a < 1)
    (hb1 : c.b1 = 2 * a * Real.cos θ) (hc3 : c.c3 = -(a * a)) (B pad : ℝ) (hpad : |pad| ≤ B)
    (xs : List ℝ) (hx : ∀ x ∈ xs, |x| ≤ B) :
    ∀ f ∈ Spec.smoothSeq c pad xs, |f| ≤ |c.c1| * B / (1 - a) ^ 2 := TwoPole.smoothSeq_bibo c a θ ha0 ha1 hb1 hc3 B pad hpad xs hx

/-- **fading memory of SuperSmoother**: by linearity the difference of two runs is the run on the difference stream
(`SsStable.diff_is_run_on_diff`); once that stream is 0 the Lyapunov functional V ≥ |difference of outputs| is multiplied by
ρ = (1 + a1)/2 < 1 at every further step — geometric convergence, for every N ≥ 1 -/
theorem superSmoother_fading (N : Nat) (hN : 0 < N) (d : List ℝ) (k : Nat) :
    TwoPole.V (TwoPole.pole (SsStable.ssA N) (44422 / 10000 / N)) (SsStable.ssA N)
        (SS.foldState (Spec.ssCoef (α := ℝ) N) 0 (d ++ [0] ++ List.replicate k 0))
      ≤ ((1 + SsStable.ssA N) / 2) ^ k *
        TwoPole.V (TwoPole.pole (SsStable.ssA N) (44422 / 10000 / N)) (SsStable.ssA N)
          (SS.foldState (Spec.ssCoef (α := ℝ) N) 0 (d ++ [0])) := by
  have ha := SsStable.ssA_range N hN
  have hc := SsStable.ssCoef_form N
  exact TwoPole.zero_tail_decay _ (SsStable.ssA N) _ ha.1.le ha.2 hc.1 hc.2 0 d k

theorem fading_dominates (N : Nat) (hN : 0 < N) (st : List ℝ × ℝ) :
    |st.1.headD 0| ≤ TwoPole.V (TwoPole.pole (SsStable.ssA N) (44422 / 10000 / N)) (SsStable.ssA N) st :=
  TwoPole.abs_head_le_V _ _ (SsStable.ssA_range N hN).1.le (SsStable.ssA_range N hN).2 st

theorem contraction_factor (N : Nat) (hN : 0 < N) : 0 < (1 + SsStable.ssA N) / 2 ∧ (1 + SsStable.ssA N) / 2 < 1 :=
  C10.Real.superSmoother_rate N hN

/-- **the high-pass pole of the RoofingFilter lies strictly inside the unit circle for every N ≥ 2** (the constructor
rejects N = 1, where the pole is −7.35): 1 − α = (1 − sin θ)/cos θ, θ = 4.4422/N -/
theorem roofing_pole_inside (N : Nat) (hN : 2 ≤ N) : |1 - roofAlpha (α := ℝ) N| < 1 := DoublePole.roofPole_abs_lt_one N hN

/-- **RoofingFilter(N, M) is BIBO stable for every N ≥ 2, M ≥ 1**, with a bound independent of the stream length -/
theorem roofing_bibo (N M' : Nat) (hN : 2 ≤ N) (hM : 0 < M') (B : ℝ) (xs : List ℝ) (hx : ∀ x ∈ xs, |x| ≤ B) (v : ℝ)
    (h : Spec.roofing N M' xs = some v) :
    |v| ≤ |(Spec.ssCoef (α := ℝ) M').c1| *
        ((1 - roofAlpha (α := ℝ) N / 2) * (1 - roofAlpha (α := ℝ) N / 2) * (4 * B)
          / (1 - |1 - roofAlpha (α := ℝ) N|) / (1 - |1 - roofAlpha (α := ℝ) N|))
        / (1 - SsStable.ssA M') ^ 2 := by
  have hB : 0 ≤ B := by
    cases xs with
    | nil => exact absurd ((if_pos hM).symm.trans h) (by simp)
    | cons x r => exact le_trans (abs_nonneg _) (hx x (by simp))
  unfold Spec.roofing at h
  apply superSmoother_bibo M' hM _ _ _ v h
  intro y hy
  exact DoublePole.hpSeq_bibo N hN B xs hx hB y (List.mem_reverse.mp (List.mem_of_mem_drop hy))

theorem roofing_view_bibo (N M' : Nat) (hN : 2 ≤ N) (hM : 0 < M') (B : ℝ) (xs : List ℝ) (hx : ∀ x ∈ xs, |x| ≤ B) (v : ℝ)
    (h : (roofCoreU (α := ℝ) N M').outAfter xs = .ok (some v)) :
    |v| ≤ |(Spec.ssCoef (α := ℝ) M').c1| *
        ((1 - roofAlpha (α := ℝ) N / 2) * (1 - roofAlpha (α := ℝ) N / 2) * (4 * B)
          / (1 - |1 - roofAlpha (α := ℝ) N|) / (1 - |1 - roofAlpha (α := ℝ) N|))
        / (1 - SsStable.ssA M') ^ 2 :=
  roofing_bibo N M' hN hM B xs hx v (Except.ok.inj ((C11.roofing_eq N M' hM xs).symm.trans h))

/-- **|TrendFlex| ≤ 5 and |ReFlex| ≤ 5**: for every N, every input whatsoever and every stream length -/
theorem trendFlex_bound (N : Nat) (xs : List ℝ) (v : ℝ) (h : Spec.trendFlex N xs = some v) : |v| ≤ 5 := by
  cases xs with
  | nil => simp [Spec.trendFlex] at h
  | cons x0 r => exact FlexBound.flexNorm_bound false _ v h
theorem reFlex_bound (N : Nat) (xs : List ℝ) (v : ℝ) (h : Spec.reFlex N xs = some v) : |v| ≤ 5 := by
  cases xs with
  | nil => simp [Spec.reFlex] at h
  | cons x0 r => exact FlexBound.flexNorm_bound true _ v h

theorem trendFlex_view_bound (N : Nat) (hN : 3 ≤ N) (xs : List ℝ) (v : ℝ)
    (h : (tflexCore (α := ℝ) N).outAfter xs = .ok (some v)) : |v| ≤ 5 :=
  trendFlex_bound N xs v (Except.ok.inj ((C11.trendFlex_eq N hN xs).symm.trans h))
theorem reFlex_view_bound (N : Nat) (hN : 3 ≤ N) (xs : List ℝ) (v : ℝ)
    (h : (rflexCore (α := ℝ) N).outAfter xs = .ok (some v)) : |v| ≤ 5 :=
  reFlex_bound N xs v (Except.ok.inj ((C11.reFlex_eq N hN xs).symm.trans h))

/-- the difference stream of two histories with a common tail is the difference of the heads followed by zeros -/
theorem lin_common_tail (p1 p2 t : List ℝ) (h : p1.length = p2.length) :
    Linear.lin 1 (-1) (p1 ++ t) (p2 ++ t) = Linear.lin 1 (-1) p1 p2 ++ List.replicate t.length 0 := by
  unfold Linear.lin
  rw [List.zipWith_append h]
  congr 1
  -- x − x = 0 at every position of the common tail
  simp

/-- **fading memory of RoofingFilter(N, M), every N ≥ 2, M ≥ 1**: two histories `p1 ++ t`, `p2 ++ t` of equal length whose
common tail `t` has k + 2 values.  By superposition (C10) the difference of the outputs is the filter's response to the
stream (p1 − p2) followed by zeros; the joint Lyapunov functional `roofW` of that response (smoother + weighted high-pass)
is multiplied by `roofRate N M` < 1 at every step after the second common value and dominates the output difference:
geometric convergence, nothing persists -/
theorem roofing_fading (N M : Nat) (hN : 2 ≤ N) (hM : 0 < M) (p1 p2 t : List ℝ) (hlen : p1.length = p2.length)
    (hl : N ≤ p1.length) (k : Nat) (ht : t.length = k + 2) (v w : ℝ)
    (hv : Spec.roofing N M (p1 ++ t) = some v) (hw : Spec.roofing N M (p2 ++ t) = some w) :
    |v - w| ≤ DcGain.roofRate N M ^ k * DcGain.roofW N M (Linear.lin 1 (-1) p1 p2 ++ [0] ++ [0]) := by
  have hlin := C10.roofing_linear (α := ℝ) N M 1 (-1) (p1 ++ t) (p2 ++ t) (by simp [hlen])
  rw [hv, hw, lin_common_tail p1 p2 t hlen, ht] at hlin
  have e : List.replicate (k + 2) (0 : ℝ) = [0] ++ [0] ++ List.replicate k 0 := by
    simp [List.replicate_succ]
  rw [e, ← List.append_assoc, ← List.append_assoc] at hlin
  have hd : |1 * v + -1 * w| ≤ DcGain.roofRate N M ^ k * DcGain.roofW N M (Linear.lin 1 (-1) p1 p2 ++ [0] ++ [0]) :=
    C10.Real.roofing_dc_decays N M hN hM (Linear.lin 1 (-1) p1 p2) 0
      (by simp [Linear.lin, List.length_zipWith, hlen]; omega) k _ (by simpa [Linear.olin] using hlin)
  have e2 : v - w = 1 * v + -1 * w := by ring
  rw [e2]; exact hd

theorem roofing_fading_rate (N M : Nat) (hN : 2 ≤ N) (hM : 0 < M) : 0 < DcGain.roofRate N M ∧ DcGain.roofRate N M < 1 :=
  DcGain.roofRate_lt_one N M hN hM

/-- … and for the view itself (state machine), through C11 -/
theorem roofing_view_fading (N M : Nat) (hN : 2 ≤ N) (hM : 0 < M) (p1 p2 t : List ℝ) (hlen : p1.length = p2.length)
    (hl : N ≤ p1.length) (k : Nat) (ht : t.length = k + 2) (v w : ℝ)
    (hv : (roofCoreU (α := ℝ) N M).outAfter (p1 ++ t) = .ok (some v))
    (hw : (roofCoreU (α := ℝ) N M).outAfter (p2 ++ t) = .ok (some w)) :
    |v - w| ≤ DcGain.roofRate N M ^ k * DcGain.roofW N M (Linear.lin 1 (-1) p1 p2 ++ [0] ++ [0]) :=
  roofing_fading N M hN hM p1 p2 t hlen hl k ht v w (Except.ok.inj ((C11.roofing_eq N M hM _).symm.trans hv))
    (Except.ok.inj ((C11.roofing_eq N M hM _).symm.trans hw))

/-- **SuperSmoother fading memory, in terms of the two outputs**: histories `p1 ++ t`, `p2 ++ t`, |p1| = |p2|, common tail of
k + 1 values: |out₁ − out₂| ≤ ((1 + a1)/2)^k · V(state of the difference stream one step after the merge) -/
theorem superSmoother_fading_outputs (N : Nat) (hN : 0 < N) (p1 p2 t : List ℝ) (hlen : p1.length = p2.length)
    (k : Nat) (ht : t.length = k + 1) (v w : ℝ)
    (hv : Spec.superSmoother N (p1 ++ t) = some v) (hw : Spec.superSmoother N (p2 ++ t) = some w) :
    |v - w| ≤ ((1 + SsStable.ssA N) / 2) ^ k *
      DcGain.Vc (TwoPole.pole (SsStable.ssA N) (44422 / 10000 / N)) (SsStable.ssA N) 0
        (SS.foldState (Spec.ssCoef (α := ℝ) N) 0 (Linear.lin 1 (-1) p1 p2 ++ [0])) := by
  have hlin := C10.superSmoother_linear (α := ℝ) N 1 (-1) (p1 ++ t) (p2 ++ t) (by simp [hlen])
  rw [hv, hw, lin_common_tail p1 p2 t hlen, ht] at hlin
  have e : List.replicate (k + 1) (0 : ℝ) = [0] ++ List.replicate k 0 := by simp [List.replicate_succ]
  rw [e, ← List.append_assoc] at hlin
  have hd := C10.Real.superSmoother_dc_converges N hN (Linear.lin 1 (-1) p1 p2) 0 k (1 * v + -1 * w)
    (by simpa [Linear.olin] using hlin)
  have e2 : v - w = 1 * v + -1 * w - 0 := by ring
  rw [e2]; exact hd

/-- instance at ℝ: **Ema(N₂) over SuperSmoother(N₁) over the raw input** is BIBO with the SuperSmoother's bound, for all
N₁, N₂ ≥ 1 and every stream length -/
theorem ema_over_superSmoother_bibo (N1 N2 : Nat) (h1 : 0 < N1) (h2 : 0 < N2) (B : ℝ) (xs : List ℝ) (hx : ∀ x ∈ xs, |x| ≤ B)
    (s) (hs : (wrap (overEcho (ssCore (α := ℝ) N1)) (emaCore N2 2)).run ((overEcho (ssCore (α := ℝ) N1)).init, (emaCore (α := ℝ) N2 2).init) xs = .ok s)
    (v : ℝ) (hv : (wrap (overEcho (ssCore (α := ℝ) N1)) (emaCore N2 2)).last s = .ok (some v)) :
    |v| ≤ |(Spec.ssCoef (α := ℝ) N1).c1| * B / (1 - SsStable.ssA N1) ^ 2 := by
  refine C09.ema_over_bibo (overEcho (ssCore (α := ℝ) N1)) (Spec.superSmoother N1)
    (Eft.realises_overEcho _ _ (fun ys => C11.superSmoother_eq N1 h1 ys)) N2 h2 _ xs ?_ s hs v hv
  intro pre hp y hy
  apply superSmoother_bibo N1 h1 B pre ?_ y hy
  intro x hxm
  exact hx x (hp.subset hxm)
end SF.C09.Real

/-! non-vacuity of `roofing_fading` / `superSmoother_fading_outputs`: equal-length heads, N ≤ |p1|, a tail of k + 2 values -/
example : ([1, 2, 3] : List ℝ).length = ([4, 5, 6] : List ℝ).length ∧ 3 ≤ ([1, 2, 3] : List ℝ).length
    ∧ ([0, 0, 0, 0, 0] : List ℝ).length = 3 + 2 := by simp
