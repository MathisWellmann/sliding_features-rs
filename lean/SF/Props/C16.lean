import SF.Props.C02
import SF.Props.C04
import SF.Lemmas.Sma
import SF.Lemmas.Welford
import SF.Lemmas.MinMax
import SF.Lemmas.Moments
import SF.Lemmas.Invariance
import SF.Lemmas.AffineMoments
/-
  C16 — Floating-point results track the exact result: no drift, no stale residue.

  This property is about IEEE-754 arithmetic.  Lean's `Float` is opaque to the kernel and no rounding-error analysis is
  attempted: the f64 / f32 half of C16 is MEASURED by `./check C16` (the same Rust generic code at f64 / f32 against the
  exact scalar Q, with the statement's own thresholds) and is claimed at level `other`, not `proof`.
  What IS proved is the exact half the measurement is compared with:
  * no drift: after a stream of ANY length the incrementally maintained accumulators equal the batch statistics of the
    current window (so in exact arithmetic nothing accumulates), and
  * no residue: when the window is flat (at least N identical values after an arbitrary volatile prefix) the exact
    answers are the ones listed in the statement (the value for the averages, 0 for WelfordOnline / Vsct, the value
    itself for Vst).
-/
namespace SF.C16
open SF.Spec
/-- Min and Max of a flat window are the value -/
theorem min_max_flat {β : Type} [LinearOrder β] (N : Nat) (hN : 0 < N) (p : List β) (c : β) (k : Nat) (hk : N ≤ k) :
    Spec.wmin N (p ++ List.replicate k c) = some c ∧ Spec.wmax N (p ++ List.replicate k c) = some c := by
  simp only [Spec.wmin, Spec.wmax, lastN_flat N p c k hk]
  have hr : c ∈ List.replicate N c := by simp; omega
  constructor
  · exact MinMax.minL_eq_some.mpr ⟨hr, fun x hx => by rw [List.eq_of_mem_replicate hx]⟩
  · exact MinMax.maxL_eq_some.mpr ⟨hr, fun x hx => by rw [List.eq_of_mem_replicate hx]⟩

section
variable {α : Type} [Field α] [LinearOrder α] [IsStrictOrderedRing α]

/-- the sample variance of a flat window is exactly 0 (a flat window is the image of any window under x ↦ 0·x + c) … -/
theorem sampleVar_flat (n : Nat) (c : α) : sampleVar (List.replicate n c) = 0 := by
  simpa using Inv2.sampleVar_affine 0 c (List.replicate n (0 : α))

/-- … hence WelfordOnline reports 0, Vsct 0 and Vst the value itself -/
theorem welford_flat [Transc α] (N : Nat) (p : List α) (c : α) (k : Nat) (hk : N ≤ k) :
    Spec.welford N (p ++ List.replicate k c) = some 0 := by
  have hl : ¬ (p ++ List.replicate k c).length < N - 1 := by simp; omega
  simp only [Spec.welford, hl, if_false, lastN_flat N p c k hk, sampleVar_flat, Spec.stdOf]
  simp

omit [IsStrictOrderedRing α] in
/-- a flat list is the image of any list under a constant map: every pairwise sign is multiplied by 0 -/
theorem kendallNum_flat (n : Nat) (c : α) : kendallNum (List.replicate n c) = 0 := by
  simpa using Invar.kendallNum_map (fun _ : α => c) 0 (fun x y => by rw [sub_self, Spec.sgn0_zero, zero_mul]) (List.replicate n 0)
end

set_option linter.unusedSectionVars false
variable {α : Type} [Field α] [LinearOrder α] [IsStrictOrderedRing α] [FloatLike α] [ExactScalar α]

/-- no drift (Sma): whatever came before and however long the stream, the running sum IS the sum of the window -/
theorem sma_no_drift (N : Nat) (hN : 0 < N) (xs : List α) :
    ∃ s, (smaCore (α := α) N).run (smaCore (α := α) N).init xs = .ok s ∧ s.q = lastN N xs ∧ s.sum = sumL (lastN N xs) :=
  ⟨_, (Sma.tracks N hN).run xs, rfl, rfl⟩

/-- no drift (WelfordOnline): mean and m2 are the first and second central moments of the window, exactly -/
theorem welford_no_drift [Transc α] (N : Nat) (hN : 0 < N) (xs : List α) :
    ∃ s, (welfordCoreU (α := α) N).run (welfordCoreU (α := α) N).init xs = .ok s ∧ s.q = lastN N xs ∧
      s.mean = sumL s.q / (s.q.length : α) ∧
      s.m2 = Moments.S2 s.q - sumL s.q * sumL s.q / (s.q.length : α) :=
  ⟨_, (Welford.tracks N hN).run xs, rfl, rfl, rfl⟩

/-- no residue: after any volatile prefix `p`, N or more identical values make Sma report exactly that value -/
theorem sma_flat (N : Nat) (hN : 0 < N) (p : List α) (c : α) (k : Nat) (hk : N ≤ k) :
    Spec.sma N (p ++ List.replicate k c) = some c := by
  rw [sma_spec N _ (by simp; omega), lastN_flat N p c k hk, sumL_const]
  have : (N : α) ≠ 0 := by exact_mod_cast hN.ne'
  field_simp

theorem vst_flat [Transc α] (N : Nat) (hN : 0 < N) (p : List α) (c : α) (k : Nat) (hk : N ≤ k) :
    Spec.vst N (p ++ List.replicate k c) = some c := by
  simp [Spec.vst, welford_flat N p c k hk, getLast_flat p c k (by omega)]

theorem vsct_flat [Transc α] (N : Nat) (hN : 0 < N) (p : List α) (c : α) (k : Nat) (hk : N ≤ k) :
    Spec.vsct N (p ++ List.replicate k c) = some 0 := by
  simp [Spec.vsct, welford_flat N p c k hk, getLast_flat p c k (by omega)]

/-- Ema's exact answer on a flat tail is NOT the value after N+1 samples (a recursive average converges
geometrically, C09); what is exact is the recursion itself -/
theorem ema_exact (N : Nat) (hN : 0 < N) (alpha : α) (xs : List α) :
    (emaCore (α := α) N alpha).outAfter xs = .ok (Spec.ema N alpha xs) := C04.ema_eq N hN alpha xs

/-- HLNormalizer reports 0 on a flat window (max = min) -/
theorem hln_flat (N : Nat) (hN : 0 < N) (p : List α) (c : α) (k : Nat) (hk : N ≤ k) :
    Spec.hln N (p ++ List.replicate k c) = some 0 := by
  obtain ⟨h1, h2⟩ := min_max_flat N hN p c k hk
  simp only [Spec.wmin, Spec.wmax] at h1 h2
  simp [Spec.hln, h1, h2, getLast_flat p c k (by omega)]

/-- Cumulative reports N·c on a flat window -/
theorem cumulative_flat (N : Nat) (hN : 0 < N) (p : List α) (c : α) (k : Nat) (hk : N ≤ k) :
    Spec.cumulative N (p ++ List.replicate k c) = some ((N : α) * c) := by
  have hne : (p ++ List.replicate k c).isEmpty = false := by simp; omega
  simp only [Spec.cumulative, hne, Bool.false_eq_true, if_false, lastN_flat N p c k hk, sumL_const]

/-- NET reports 0 on a flat window (every pair is a tie), N ≥ 2 -/
theorem net_flat (N : Nat) (hN : 2 ≤ N) (p : List α) (c : α) (k : Nat) (hk : N ≤ k) :
    Spec.net N (p ++ List.replicate k c) = some 0 := by
  simp only [Spec.net, lastN_flat N p c k hk, List.length_replicate]
  rw [if_neg (by omega)]
  simp [Spec.kendall, kendallNum_flat]

end SF.C16

namespace SF.C16.Real
open SF.Spec
/-- CTI reports 0 on a flat window (its variance term is 0) -/
theorem cti_flat (N : Nat) (hN : 0 < N) (p : List ℝ) (c : ℝ) (k : Nat) (hk : N ≤ k) :
    Spec.cti N (p ++ List.replicate k c) = some 0 := by
  have hl : ¬ (p ++ List.replicate k c).length < N := by simp; omega
  simp only [Spec.cti, hl, if_false, lastN_flat N p c k hk]
  congr 1
  -- the centred sum of the window with itself is 0: a flat window is the image of any window under x ↦ 0·x + c
  have h0 : Moments.ncov (List.replicate N c) (List.replicate N c) = 0 := by
    simpa using Inv2.ncov_self_map_affine 0 c (List.replicate N (0 : ℝ))
  rw [Inv2.pearson_eq_corr, Inv2.corr_of_not_pos h0.not_gt]
end SF.C16.Real
