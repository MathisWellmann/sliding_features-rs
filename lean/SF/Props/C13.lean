import SF.Lemmas.Rolling
/-
  C13 — Rolling statistics equal their batch definition over the whole history.
  For every finite history `xs` of any length (exact arithmetic: any linearly ordered field; `sqrt`/`ln` are the
  scalar's, uninterpreted, so in particular `Real.sqrt` / `Real.log` at `ℝ`).
-/
namespace SF.C13
variable {α : Type} [Field α] [LinearOrder α] [IsStrictOrderedRing α] [FloatLike α] [ExactScalar α] [Transc α]
set_option linter.unusedSectionVars false

/-- `WelfordRolling::mean()` is the arithmetic mean of all values delivered so far -/
theorem welfordRolling_mean (xs : List α) :
    ∃ s, (welfordRollingCore (α := α)).run (welfordRollingCore (α := α)).init xs = .ok s ∧
      s.mean = Spec.welfordRollingMean xs := by
  exact ⟨_, Rolling.welfordRolling_tracks.run xs, Rolling.welfordRolling_mean_st xs⟩

/-- `variance()` is the population variance Σ(x−mean)²/n of all values so far (0 for n ≤ 1) -/
theorem welfordRolling_variance (xs : List α) :
    ∃ s, (welfordRollingCore (α := α)).run (welfordRollingCore (α := α)).init xs = .ok s ∧
      s.variance = Spec.popVar xs := by
  exact ⟨_, Rolling.welfordRolling_tracks.run xs, Rolling.welfordRolling_var_st xs⟩

/-- `last()` is the population standard deviation (square root of the above); nothing before the first value -/
theorem welfordRolling_last (xs : List α) :
    (welfordRollingCore (α := α)).outAfter xs = .ok (Spec.welfordRolling xs) :=
  (Rolling.welfordRolling_tracks.outAfter xs).trans (Rolling.welfordRolling_out_st xs)

/-- Drawdown equals the largest relative decline (peak − x_j)/peak from the running maximum, over all j so far,
for every positive stream in any order (new peaks after drawdowns, repeated peaks, monotone runs).
`minValue < 0` is the only thing used about `T::min_value()`. -/
theorem drawdown_eq (hmin : (FloatLike.minValue : α) < 0) (xs : List α) (hx : ∀ x ∈ xs, 0 < x) :
    (drawdownCore (α := α)).outAfter xs = .ok (some (Spec.drawdown xs)) := by
  obtain ⟨s, hs, hi⟩ := Rolling.drawdown_run_ok hmin xs hx
  rw [Core.outAfter, hs]
  exact Rolling.drawdown_out_eq s xs hi

/-- LnReturn equals ln(x_t / x_{t−1}), from the second value on, for every stream without zeros -/
theorem lnReturn_eq (xs : List α) (hx : ∀ x ∈ xs, x ≠ 0) :
    (lnReturnCore (α := α)).outAfter xs = .ok (Spec.lnReturn xs) := by
  rw [Rolling.lnReturn_tracks.outAfter, Rolling.lnReturn_out_st xs hx]

/-- the spec of LnReturn, unfolded on a history with at least two values -/
theorem lnReturn_spec (xs : List α) (p x : α) : Spec.lnReturn (xs ++ [p, x]) = some (Transc.ln (x / p)) := by
  simp [Spec.lnReturn]

end SF.C13
