import SF.Lemmas.CcLinear
import SF.Props.C11
import SF.Props.C04
import SF.Lemmas.RoofDecay
/-
  C10 — Linear views obey superposition.
  For streams `x`, `y` of equal length and scalars `a`, `b` (any sign, including 0): view(a·x + b·y) = a·view(x) + b·view(y)
  at every step, exactly, in exact arithmetic.  Proved on the batch definitions (to which the state machines are equal
  by C02 / C04, and by C11 for the recursive members).  `lin a b xs ys` is the stream a·x + b·y (`C10.lin` for the windowed
  members, the identical `Linear.lin` for the recursive ones).
-/
namespace SF.C10
open SF.Spec
variable {α : Type} [Field α]

def lin (a b : α) (xs ys : List α) : List α := List.zipWith (fun x y => a * x + b * y) xs ys

/-- combine two optional outputs linearly -/
def olin (a b : α) : Option α → Option α → Option α
  | some u, some v => some (a * u + b * v)
  | _, _ => none

theorem lastN_lin (n : Nat) (a b : α) (xs ys : List α) (h : xs.length = ys.length) :
    lastN n (lin a b xs ys) = lin a b (lastN n xs) (lastN n ys) := by
  simp only [lastN, lin, List.length_zipWith, h, Nat.min_self]
  rw [List.drop_zipWith]

theorem emaRec_linear (w a b : α) (xs ys : List α) (h : xs.length = ys.length) :
    emaRec w (lin a b xs ys) = olin a b (emaRec w xs) (emaRec w ys) := by
  cases xs with
  | nil => cases ys <;> simp_all [emaRec, lin, olin]
  | cons x0 r =>
    cases ys with
    | nil => simp at h
    | cons y0 r' =>
      simp only [List.length_cons, Nat.add_right_cancel_iff] at h
      simp only [lin, List.zipWith_cons_cons, emaRec, olin, Option.some.injEq]
      exact (Linear.foldl_lin a b _ (fun s t => a * s + b * t) (fun _ _ => True) (fun s t x y _ => ⟨by ring, trivial⟩)
        r r' h x0 y0 trivial).1

theorem ema_linear (N : Nat) (alpha a b : α) (xs ys : List α) (h : xs.length = ys.length) :
    Spec.ema N alpha (lin a b xs ys) = olin a b (Spec.ema N alpha xs) (Spec.ema N alpha ys) := by
  have hl : (lin a b xs ys).length = xs.length := Linear.lin_length a b xs ys h
  simp only [Spec.ema, hl]
  by_cases hx : xs.length < N
  · have hy : ys.length < N := by omega
    simp [hx, hy, olin]
  · have hy : ¬ ys.length < N := by omega
    simp only [hx, hy, if_false]
    exact emaRec_linear _ a b xs ys h

/-! ### recursive members: SuperSmoother, LaguerreFilter, RoofingFilter, CyberCycle -/
/-- SuperSmoother obeys superposition (any a, b incl. 0 and negatives), every N, every pair of equally long streams -/
theorem superSmoother_linear [Transc α] (N : Nat) (a b : α) (xs ys : List α) (h : xs.length = ys.length) :
    Spec.superSmoother N (Linear.lin a b xs ys) = Linear.olin a b (Spec.superSmoother N xs) (Spec.superSmoother N ys) := by
  have hl := Linear.lin_length a b xs ys h
  simp only [Spec.superSmoother, hl]
  by_cases hx : xs.length < N
  · have hy : ys.length < N := by omega
    simp [hx, hy, Linear.olin]
  · have hy : ¬ ys.length < N := by omega
    simp only [hx, hy, if_false, SS.smoothSeq_eq]
    have := Linear.foldState_lin (Spec.ssCoef (α := α) N) a b 0 0 xs ys h
    simp only [mul_zero, add_zero, nat_eq, Nat.cast_zero] at this ⊢
    rw [this]
    exact Linear.head?_lin a b _ _ (by rw [SS.foldState_length, SS.foldState_length, h])

/-- LaguerreFilter obeys superposition for every gamma -/
theorem laguerre_linear (g a b : α) (xs ys : List α) (h : xs.length = ys.length) :
    Spec.laguerreFilter g (Linear.lin a b xs ys) = Linear.olin a b (Spec.laguerreFilter g xs) (Spec.laguerreFilter g ys) := by
  cases xs with
  | nil =>
    have : ys = [] := by cases ys <;> simp_all
    subst this; simp [Spec.laguerreFilter, Linear.lin, Linear.olin]
  | cons x0 r =>
    cases ys with
    | nil => simp at h
    | cons y0 r' =>
      have hl : r.length = r'.length := by simpa using h
      have e : Linear.lin a b (x0 :: r) (y0 :: r') = (a * x0 + b * y0) :: Linear.lin a b r r' := by simp [Linear.lin]
      rw [e]
      have := Linear.ladder_lin g a b (x0, x0, x0, x0) (y0, y0, y0, y0) r r' hl
      simp only [Spec.laguerreFilter, Linear.olin, this, nat_eq, Nat.cast_ofNat, Option.some.injEq]
      ring

/-- RoofingFilter obeys superposition -/
theorem roofing_linear [Transc α] (N M' : Nat) (a b : α) (xs ys : List α) (h : xs.length = ys.length) :
    Spec.roofing N M' (Linear.lin a b xs ys) = Linear.olin a b (Spec.roofing N M' xs) (Spec.roofing N M' ys) := by
  simp only [Spec.roofing, Roof.hpSeq_eq, Linear.hpFold_lin N a b xs ys h]
  have hlen : (Roof.hpFold N xs).1.length = (Roof.hpFold N ys).1.length := by
    rw [Roof.hpFold_length, Roof.hpFold_length, h]
  rw [Linear.lin_reverse a b _ _ hlen, Linear.lin_drop]
  exact superSmoother_linear M' a b _ _ (by simp [hlen])

/-- **CyberCycle obeys superposition at every step** (spec level, any ordered field) … -/
theorem cyberCycle_linear [Transc α] (N : Nat) (a b : α) (xs ys : List α) (h : xs.length = ys.length) :
    Spec.cyberCycle N (Linear.lin a b xs ys) = Linear.olin a b (Spec.cyberCycle N xs) (Spec.cyberCycle N ys) := by
  have hl := Linear.lin_length a b xs ys h
  rw [CC.cyberCycle_unfold, CC.cyberCycle_unfold, CC.cyberCycle_unfold, hl, CcLinear.C_lin N a b xs ys h, ← h]
  exact Linear.head?_lin a b _ _ (by rw [CC.C_length, CC.C_length])

/-! ### Alma: the weights depend on positions only -/
theorem dot_lin (gs : List α) (a b : α) (l1 l2 : List α) (hl : l1.length = l2.length) :
    Alma.dot gs (lin a b l1 l2) = a * Alma.dot gs l1 + b * Alma.dot gs l2 := by
  induction gs generalizing l1 l2 with
  | nil => simp [Alma.dot]
  | cons g gs ih =>
    cases l1 with
    | nil => obtain rfl := List.length_eq_zero_iff.mp hl.symm; simp [lin, Alma.dot]
    | cons x r => cases l2 with
      | nil => simp at hl
      | cons y s =>
        have := ih r s (by simpa using hl)
        simp only [lin, List.zipWith_cons_cons, Alma.dot] at this ⊢
        rw [this]; ring

/-- Alma obeys superposition: its weights depend on positions only -/
theorem alma_linear [Transc α] (N : Nat) (sigma offset a b : α) (xs ys : List α) (h : xs.length = ys.length) :
    Spec.alma N sigma offset (lin a b xs ys) = olin a b (Spec.alma N sigma offset xs) (Spec.alma N sigma offset ys) := by
  have hl : (lin a b xs ys).length = xs.length := Linear.lin_length a b xs ys h
  by_cases hx : xs = []
  · subst hx
    obtain rfl : ys = [] := List.length_eq_zero_iff.mp h.symm
    rfl
  · have hy : ys ≠ [] := fun e => hx (List.length_eq_zero_iff.mp (by rw [h, e]; rfl))
    have hxy : lin a b xs ys ≠ [] := fun e => hx (List.length_eq_zero_iff.mp (by rw [← hl, e]; rfl))
    rw [Alma.spec_eq_wmean N sigma offset _ hxy, Alma.spec_eq_wmean N sigma offset _ hx,
      Alma.spec_eq_wmean N sigma offset _ hy, hl, ← h, lastN_lin N a b xs ys h,
      dot_lin _ a b _ _ (by rw [lastN_length, lastN_length, h]), olin, add_div, mul_div_assoc, mul_div_assoc]

/-! ### the windowed members, and all of them as state machines -/
theorem cumulative_linear (N : Nat) (a b : α) (xs ys : List α) (h : xs.length = ys.length) :
    Spec.cumulative N (lin a b xs ys) = olin a b (Spec.cumulative N xs) (Spec.cumulative N ys) := by
  cases xs with
  | nil => cases ys <;> simp_all [Spec.cumulative, lin, olin]
  | cons x xs =>
    cases ys with
    | nil => simp at h
    | cons y ys =>
      have hne : lin a b (x :: xs) (y :: ys) ≠ [] := by simp [lin]
      simp only [Spec.cumulative, List.isEmpty_iff, hne, if_false, olin]
      simp only [List.cons_ne_nil, if_false]
      rw [lastN_lin N a b _ _ h]
      simp only [lin]
      rw [sumL_zipWith_lin a b _ _ (by simp [lastN_length]; simp at h; omega)]

variable [LinearOrder α] [IsStrictOrderedRing α] [FloatLike α] [ExactScalar α]

omit [FloatLike α] [ExactScalar α] in
theorem sma_linear (N : Nat) (a b : α) (xs ys : List α) (h : xs.length = ys.length) :
    Spec.sma N (lin a b xs ys) = olin a b (Spec.sma N xs) (Spec.sma N ys) := by
  have hl : (lin a b xs ys).length = xs.length := Linear.lin_length a b xs ys h
  by_cases hx : xs.length < N
  · have hy : ys.length < N := by omega
    simp [Spec.sma, hl, hx, hy, olin]
  · have hx' : N ≤ xs.length := by omega
    have hy' : N ≤ ys.length := by omega
    rw [sma_spec N xs hx', sma_spec N ys hy', sma_spec N _ (by rw [hl]; exact hx'), lastN_lin N a b xs ys h]
    simp only [olin, lin]
    rw [sumL_zipWith_lin a b _ _ (by simp [lastN_length, h])]
    congr 1; ring

/-- transported to the state machines: the Sma view of a·x + b·y -/
theorem sma_view_linear (N : Nat) (hN : 0 < N) (a b : α) (xs ys : List α) (h : xs.length = ys.length) :
    (smaCore (α := α) N).outAfter (lin a b xs ys) = .ok (olin a b (Spec.sma N xs) (Spec.sma N ys)) := by
  rw [C02.sma_eq N hN, sma_linear N a b xs ys h]

theorem ema_view_linear (N : Nat) (hN : 0 < N) (alpha a b : α) (xs ys : List α) (h : xs.length = ys.length) :
    (emaCore (α := α) N alpha).outAfter (lin a b xs ys) = .ok (olin a b (Spec.ema N alpha xs) (Spec.ema N alpha ys)) := by
  rw [C04.ema_eq N hN, ema_linear N alpha a b xs ys h]

theorem cumulative_view_linear (N : Nat) (hN : 0 < N) (a b : α) (xs ys : List α) (h : xs.length = ys.length) :
    (cumCore (α := α) N).outAfter (lin a b xs ys) = .ok (olin a b (Spec.cumulative N xs) (Spec.cumulative N ys)) := by
  rw [C02.cumulative_eq N hN, cumulative_linear N a b xs ys h]

set_option linter.unusedSectionVars false in
/-- the low-pass members map a constant stream to the same constant from their first output -/
theorem sma_dc (N : Nat) (hN : 0 < N) (c : α) (L : Nat) (hL : N ≤ L) : Spec.sma N (List.replicate L c) = some c := by
  have hN0 : (N : α) ≠ 0 := by exact_mod_cast hN.ne'
  rw [sma_spec N _ (by simpa using hL), show lastN N (List.replicate L c) = _ from lastN_flat N [] c L hL, sumL_const,
    mul_div_cancel_left₀ c hN0]
theorem ema_dc (N : Nat) (hN : 0 < N) (alpha c : α) (L : Nat) (hL : N ≤ L) :
    Spec.ema N alpha (List.replicate L c) = some c := by
  obtain ⟨L', rfl⟩ : ∃ L', L = L' + 1 := ⟨L - 1, by omega⟩
  have : ¬ (List.replicate (L' + 1) c).length < N := by simp; omega
  simp only [Spec.ema, this, if_false]
  exact C04.emaRec_const _ c L'

section recursive
variable [Transc α]
/-- and these ARE what the state machines report (C11): e.g. the SuperSmoother view of a·x + b·y -/
theorem superSmoother_view_linear (N : Nat) (hN : 0 < N) (a b : α) (xs ys : List α) (h : xs.length = ys.length) :
    (ssCore (α := α) N).outAfter (Linear.lin a b xs ys)
      = .ok (Linear.olin a b (Spec.superSmoother N xs) (Spec.superSmoother N ys)) := by
  rw [C11.superSmoother_eq N hN, superSmoother_linear N a b xs ys h]

theorem laguerre_view_linear (g a b : α) (xs ys : List α) (h : xs.length = ys.length) :
    (lagfCore (α := α) g).outAfter (Linear.lin a b xs ys)
      = .ok (Linear.olin a b (Spec.laguerreFilter g xs) (Spec.laguerreFilter g ys)) := by
  rw [C11.laguerreFilter_eq, laguerre_linear g a b xs ys h]

set_option linter.unusedSectionVars false in
/-- LaguerreFilter maps a constant stream to the same constant from its first output -/
theorem laguerre_dc (g c : α) (n : Nat) : Spec.laguerreFilter g (List.replicate (n + 1) c) = some c := by
  simp only [List.replicate_succ, Spec.laguerreFilter]
  have : lagLadder g (c, c, c, c) (List.replicate n c) = (c, c, c, c) := by
    induction n with
    | zero => simp [lagLadder]
    | succ n ih =>
      rw [List.replicate_succ', Lagf.ladder_snoc, ih]
      simp only [nat_eq, Nat.cast_one, Prod.mk.injEq]
      refine ⟨by ring, by ring, by ring, by ring⟩
  rw [this]; simp only [nat_eq, Nat.cast_ofNat, Option.some.injEq]; ring
end recursive

/-- … and so does the view itself, for every window its constructor accepts (N ≥ 6), through C11 -/
theorem cyberCycle_view_linear [Transc α] (N : Nat) (hN : 6 ≤ N) (a b : α) (xs ys : List α) (h : xs.length = ys.length) :
    (ccCoreU (α := α) N).outAfter (Linear.lin a b xs ys)
      = .ok (Linear.olin a b (Spec.cyberCycle N xs) (Spec.cyberCycle N ys)) := by
  rw [C11.cyberCycle_eq N hN, cyberCycle_linear N a b xs ys h]

end SF.C10

/-! ### response to a constant stream (third sentence of the statement): SuperSmoother converges to the constant, the
high-pass members RoofingFilter and CyberCycle send it to 0 — geometrically, for every admissible window length -/
namespace SF.C10.Real

/-- the SuperSmoother has unit DC gain: c1 + b1 + c3 = 1 -/
theorem superSmoother_unit_gain (N : Nat) :
    (Spec.ssCoef (α := ℝ) N).c1 = 1 - (Spec.ssCoef (α := ℝ) N).b1 - (Spec.ssCoef (α := ℝ) N).c3 :=
  (C11.coefficients (α := ℝ) N).2.2

/-- **SuperSmoother converges to a constant input, geometrically, for every N ≥ 1**: after ANY history `xs`, once the
input has been c0 for one step, each further c0 multiplies the Lyapunov functional of the deviation from c0 by
(1 + a1)/2 < 1; the functional dominates |output − c0| -/
theorem superSmoother_dc_converges (N : Nat) (hN : 0 < N) (xs : List ℝ) (c0 : ℝ) (k : Nat) (v : ℝ)
    (h : Spec.superSmoother N (xs ++ [c0] ++ List.replicate k c0) = some v) :
    |v - c0| ≤ ((1 + SsStable.ssA N) / 2) ^ k *
      DcGain.Vc (TwoPole.pole (SsStable.ssA N) (44422 / 10000 / N)) (SsStable.ssA N) c0
        (SS.foldState (Spec.ssCoef (α := ℝ) N) 0 (xs ++ [c0])) := by
  have ha := SsStable.ssA_range N hN
  have hc := SsStable.ssCoef_form N
  have hd := TwoPole.level_tail_decay (Spec.ssCoef (α := ℝ) N) (SsStable.ssA N) (44422 / 10000 / N) ha.1.le ha.2 hc.1 hc.2
    0 c0 (by rw [superSmoother_unit_gain N]) xs k
  have hdom := TwoPole.abs_head_sub_le_Vc (TwoPole.pole (SsStable.ssA N) (44422 / 10000 / N)) (SsStable.ssA N) c0 ha.1.le ha.2
    (SS.foldState (Spec.ssCoef (α := ℝ) N) 0 (xs ++ [c0] ++ List.replicate k c0))
  rw [SS.headD_of_superSmoother N _ v h] at hdom
  exact le_trans hdom hd

/-- the contraction factor of the SuperSmoother is strictly inside (0, 1) -/
theorem superSmoother_rate (N : Nat) (hN : 0 < N) : 0 < (1 + SsStable.ssA N) / 2 ∧ (1 + SsStable.ssA N) / 2 < 1 := by
  have h := SsStable.ssA_range N hN
  exact ⟨by linarith only [h.1], (Stable.mid_lt_one h.2).2⟩

/-- **RoofingFilter(N, M) sends a constant stream to 0, geometrically, for every N ≥ 2, M ≥ 1**: after ANY history longer
than the high-pass delay that ends in two equal values c0, c0, every further c0 multiplies the joint functional `roofW`
(smoother functional + weighted high-pass functional) by `roofRate N M` < 1, and `roofW` dominates |output| -/
theorem roofing_dc_decays (N M : Nat) (hN : 2 ≤ N) (hM : 0 < M) (l : List ℝ) (c0 : ℝ) (hl : N < (l ++ [c0]).length) (k : Nat)
    (v : ℝ) (h : Spec.roofing N M (l ++ [c0] ++ [c0] ++ List.replicate k c0) = some v) :
    |v| ≤ DcGain.roofRate N M ^ k * DcGain.roofW N M (l ++ [c0] ++ [c0]) :=
  le_trans (DcGain.abs_roofing_le_W N M hN hM _ v h) (DcGain.roof_joint_decay N M hN hM l c0 hl k).1

theorem roofing_rate (N M : Nat) (hN : 2 ≤ N) (hM : 0 < M) : 0 < DcGain.roofRate N M ∧ DcGain.roofRate N M < 1 :=
  DcGain.roofRate_lt_one N M hN hM

/-- … the same for the view itself (state machine), through C11 -/
theorem roofing_view_dc_decays (N M : Nat) (hN : 2 ≤ N) (hM : 0 < M) (l : List ℝ) (c0 : ℝ) (hl : N < (l ++ [c0]).length) (k : Nat)
    (v : ℝ) (h : (roofCoreU (α := ℝ) N M).outAfter (l ++ [c0] ++ [c0] ++ List.replicate k c0) = .ok (some v)) :
    |v| ≤ DcGain.roofRate N M ^ k * DcGain.roofW N M (l ++ [c0] ++ [c0]) :=
  roofing_dc_decays N M hN hM l c0 hl k v (Except.ok.inj ((C11.roofing_eq N M hM _).symm.trans h))

end SF.C10.Real

namespace SF.C10
variable {α : Type} [Field α] [LinearOrder α] [IsStrictOrderedRing α] [FloatLike α] [ExactScalar α]

set_option linter.unusedSectionVars false in
/-- **CyberCycle sends a constant stream to 0, geometrically, for every N ≥ 1** (any ordered field): history `xs`
followed by L copies of c0; from five steps into the constant stretch V(n) = |c(n+1)| + (2p/(1−p))·|c(n+1) − p·c(n)|
shrinks by (1+p)/2 = N/(N+1) per step and dominates the output |c(n+1)|; c(n) is `DoublePole.cAt N _ n`, the value reported
after the first n + 1 values (`DoublePole.cAt_spec`) -/
theorem cyberCycle_dc_decays [Transc α] (N : Nat) (hN : 1 ≤ N) (xs : List α) (c0 : α) (L m k : Nat)
    (hm1 : xs.length + 5 ≤ m + 2) (hm2 : N ≤ m + 3) (hL : m + k + 1 < xs.length + L) :
    let p : α := 1 - 2 / ((N : α) + 1)
    let c := fun n => DoublePole.cAt N (xs ++ List.replicate L c0) n
    let V := fun n => |c (n + 1)| + 2 * p / (1 - p) * |c (n + 1) - p * c n|
    V (m + k) ≤ ((1 + p) / 2) ^ k * V m ∧ |c (m + k + 1)| ≤ V (m + k) := by
  intro p c V
  have hpole := Stable.one_sub_two_div_succ (α := α) N hN
  refine DoublePole.seq_decay p hpole.1 hpole.2 c m k fun n hn hn2 => ?_
  simp only [c]
  rw [DoublePole.cAt_rec N _ n (by omega), CC.smS_const_tail xs c0 L _ (by push_cast; omega) (by push_cast; omega),
    CC.smS_const_tail xs c0 L _ (by push_cast; omega) (by push_cast; omega),
    CC.smS_const_tail xs c0 L _ (by push_cast; omega) (by push_cast; omega)]
  ring

end SF.C10

/-! non-vacuity: the index hypotheses of `cyberCycle_dc_decays` are satisfiable (N = 6, a history of 2 values followed by
40 constants, decay observed from step m = 5 for k = 20 steps), and `roofing_dc_decays` applies to concrete histories -/
example : (2 : Nat) + 5 ≤ 5 + 2 ∧ 6 ≤ 5 + 3 ∧ 5 + 20 + 1 < 2 + 40 := by decide
example : (2 : Nat) < ([1, 2, 3] ++ [(7 : ℝ)]).length := by simp
