import SF.Lemmas.Sma
import SF.Lemmas.Cum
import SF.Lemmas.MinMax
import SF.Lemmas.Welford
import SF.Lemmas.Rsi
import SF.Lemmas.Hln
import SF.Lemmas.Lagf
import SF.Lemmas.LagRsi
import SF.Lemmas.Flex
import SF.Lemmas.CyberCycle
import SF.Lemmas.Cog
import SF.Lemmas.Bent
import SF.Lemmas.Cti
import SF.Lemmas.Net
import SF.Lemmas.Roc
import SF.Lemmas.MyRsi
import SF.Lemmas.Alma
import SF.Lemmas.Eft
import SF.Lemmas.Pfe
/-
  C18 — Bounded memory: state size does not grow with stream length.
  `size` counts the scalars held in heap buffers (deques / vecs) of a state; it is compared with the live heap bytes
  of the Rust view by `./check C18`.  For every window length and EVERY stream length, the size after the run is
  bounded by a function of the window length only; sizes add up along chains.
-/
namespace SF.C18
open Spec

section
variable {α : Type}

/-- Declared inside `namespace SF.C18`: the full name is `SF.C18.Core.SizeBounded`, so `B.SizeBounded` does not resolve, and in
this file `Core.x` means `SF.C18.Core.x` first. -/
def Core.SizeBounded (B : Core α) (bound : Nat) : Prop :=
  ∀ xs s, B.run B.init xs = .ok s → B.size s ≤ bound

theorem Core.sizeBounded_of_run {B : Core α} {Inv : B.σ → List α → Prop} {n : Nat}
    (hrun : ∀ xs, ∃ s, B.run B.init xs = .ok s ∧ Inv s xs) (hsize : ∀ s xs, Inv s xs → B.size s ≤ n) :
    Core.SizeBounded B n :=
  fun xs s h => hsize s xs (SF.Core.inv_of_run hrun h)

theorem Core.sizeBounded_of_tracks {B : Core α} {f : List α → B.σ} (h : B.Tracks f) {n : Nat}
    (hs : ∀ xs, B.size (f xs) ≤ n) : Core.SizeBounded B n :=
  Core.sizeBounded_of_run (Inv := fun s xs => s = f xs) (fun xs => ⟨_, h.run xs, rfl⟩) fun _ xs e => e ▸ hs xs

/-- a bound for the inner view and one for the core give their sum for the chain, independent of the stream length and,
by repetition, whatever the depth -/
theorem chain_bounded [FloatLike α] [ExactScalar α] (A : View α) (B : Core α) (nA nB : Nat)
    (hA : ∀ xs a, A.run A.init xs = .ok a → A.size a ≤ nA) (hB : Core.SizeBounded B nB)
    (xs : List α) (s : A.σ × B.σ) (h : (wrap A B).run (A.init, B.init) xs = .ok s) :
    (wrap A B).size s ≤ nA + nB :=
  let ⟨_, _, h1, _, h2⟩ := (wrap_run_eq_ok (allFinite_exact xs)).mp h
  Nat.add_le_add (hA xs s.1 h1) (hB _ s.2 h2)
end

set_option linter.unusedSectionVars false
variable {α : Type} [Field α] [LinearOrder α] [IsStrictOrderedRing α] [FloatLike α] [ExactScalar α]

theorem sma_bounded (N : Nat) (hN : 0 < N) : Core.SizeBounded (smaCore (α := α) N) N :=
  Core.sizeBounded_of_tracks (Sma.tracks N hN) fun xs => lastN_length_le N xs
theorem cum_bounded (N : Nat) (hN : 0 < N) : Core.SizeBounded (cumCore (α := α) N) N :=
  Core.sizeBounded_of_tracks (Cum.tracks N hN) fun xs => lastN_length_le N xs

theorem min_bounded (N : Nat) (hN : 0 < N) : Core.SizeBounded (minCoreU (α := α) N) N :=
  Core.sizeBounded_of_tracks (MinMax.min_tracks N hN) fun xs => lastN_length_le N xs

theorem max_bounded (N : Nat) (hN : 0 < N) : Core.SizeBounded (maxCoreU (α := α) N) N :=
  Core.sizeBounded_of_tracks (MinMax.max_tracks N hN) fun xs => lastN_length_le N xs

theorem rsi_bounded (N : Nat) (hN : 0 < N) : Core.SizeBounded (rsiCore (α := α) N) N :=
  Core.sizeBounded_of_tracks (Rsi.tracks N hN) fun xs => lastN_length_le N xs
theorem hln_bounded (N : Nat) (hN : 0 < N) : Core.SizeBounded (hlnCore (α := α) N) N :=
  Core.sizeBounded_of_tracks (Hln.tracks N hN) fun xs => lastN_length_le N xs

theorem cog_bounded (N : Nat) (hN : 0 < N) : Core.SizeBounded (cogCore (α := α) N) N :=
  Core.sizeBounded_of_tracks (Cog.tracks N hN) fun xs => lastN_length_le N xs

theorem net_bounded (N : Nat) (hN : 0 < N) : Core.SizeBounded (netCore (α := α) N) N :=
  Core.sizeBounded_of_tracks (Net.tracks N hN) fun xs => lastN_length_le N xs

theorem myrsi_bounded (N : Nat) (hN : 0 < N) : Core.SizeBounded (myRsiCore (α := α) N) N :=
  Core.sizeBounded_of_tracks (MyRsi.tracks N hN) fun xs => lastN_length_le N xs

theorem roc_bounded (N : Nat) (hN : 0 < N) : Core.SizeBounded (rocCore (α := α) N) N :=
  Core.sizeBounded_of_tracks (Roc.tracks N hN) fun xs => lastN_length_le N xs

/-- LaguerreRSI keeps at most three entries in each of its four ladder deques -/
theorem laguerreRsi_bounded (N : Nat) : Core.SizeBounded (lagRsiCore (α := α) N) 12 :=
  Core.sizeBounded_of_tracks (LagRsi.tracks N) (LagRsi.size_st_le N)

/-- LaguerreFilter never holds more than 9 scalars (2 per stage + the latest output), whatever the stream length -/
theorem laguerre_bounded (g : α) : Core.SizeBounded (lagfCore (α := α) g) 9 :=
  Core.sizeBounded_of_tracks (Lagf.tracks g) (Lagf.size_st_le g)

section transc
variable [Transc α]
/-- CyberCycle keeps at most N inputs, N outputs and its N smoothing slots (N ≥ 6) -/
theorem cyberCycle_bounded (N : Nat) (hN : 6 ≤ N) : Core.SizeBounded (ccCoreU (α := α) N) (3 * N) :=
  Core.sizeBounded_of_run (CC.run_ok N hN) fun _ _ h => h.size_le
/-- TrendFlex / ReFlex keep at most N filter values (N ≥ 3) -/
theorem trendFlex_bounded (N : Nat) (hN : 3 ≤ N) : Core.SizeBounded (tflexCore (α := α) N) N :=
  Core.sizeBounded_of_tracks (TrendFlex.tracks N hN) (Flex.size_st_le N false _)
theorem reFlex_bounded (N : Nat) (hN : 3 ≤ N) : Core.SizeBounded (rflexCore (α := α) N) N :=
  Core.sizeBounded_of_tracks (ReFlex.tracks N hN) (Flex.size_st_le N true _)

theorem welford_bounded (N : Nat) (hN : 0 < N) : Core.SizeBounded (welfordCoreU (α := α) N) N :=
  Core.sizeBounded_of_tracks (Welford.tracks N hN) fun xs => lastN_length_le N xs

theorem vst_bounded (N : Nat) (hN : 0 < N) : Core.SizeBounded (vstCoreU (α := α) N) N :=
  Core.sizeBounded_of_tracks (Welford.vst_tracks N hN) fun xs => lastN_length_le N xs

theorem vsct_bounded (N : Nat) (hN : 0 < N) : Core.SizeBounded (vsctCoreU (α := α) N) N :=
  Core.sizeBounded_of_tracks (Welford.vsct_tracks N hN) fun xs => lastN_length_le N xs

theorem entropy_bounded (N : Nat) (hN : 0 < N) : Core.SizeBounded (bentCore (α := α) N) N :=
  Core.sizeBounded_of_tracks (Bent.tracks N hN) fun xs => (List.length_reverse).trans_le (lastN_length_le N xs)

theorem cti_bounded (N : Nat) (hN : 0 < N) : Core.SizeBounded (ctiCore (α := α) N) N :=
  Core.sizeBounded_of_tracks (Cti.tracks N hN) fun xs => lastN_length_le N xs

/-- Alma: its three deques (values, weights, outputs) hold at most N entries each -/
theorem alma_bounded (N : Nat) (hN : 0 < N) (sigma offset : α) : Core.SizeBounded (almaCore (α := α) N sigma offset) (3 * N) :=
  Core.sizeBounded_of_run (Alma.run_ok N hN sigma offset) fun _ _ hi => hi.size_le

/-- cores that own no buffer at all -/
theorem bufferless (N : Nat) (alpha c : α) :
    (∀ s, (emaCore (α := α) N alpha).size s = 0) ∧ (∀ s, (ssCore (α := α) N).size s = 0) ∧
    (∀ s, (welfordRollingCore (α := α)).size s = 0) ∧ (∀ s, (drawdownCore (α := α)).size s = 0) ∧
    (∀ s, (lnReturnCore (α := α)).size s = 0) ∧ (∀ s, (gteCore c).size s = 0) ∧ (∀ s, (lteCore c).size s = 0) :=
  ⟨fun _ => rfl, fun _ => rfl, fun _ => rfl, fun _ => rfl, fun _ => rfl, fun _ => rfl, fun _ => rfl⟩

/-- RoofingFilter owns no buffer -/
theorem roofing_bufferless (N M' : Nat) : ∀ s, (roofCoreU (α := α) N M').size s = 0 := fun _ => rfl
end transc

/-- the size of a node is the sum of its parts' sizes -/
theorem wrap_size (A : View α) (B : Core α) (a : A.σ) (b : B.σ) : (wrap A B).size (a, b) = A.size a + B.size b := rfl
theorem binop_size (f : α → α → M α) (A B : View α) (a : A.σ) (b : B.σ) :
    (binop f A B).size (a, b) = A.size a + B.size b := rfl
theorem mapV_size (f : α → α) (A : View α) (a : A.σ) : (mapV f A).size a = A.size a := rfl

/-- example: Sma(M) over Sma(N) over Echo holds at most N + M scalars, however long the stream -/
theorem sma_sma_bounded (N M' : Nat) (hN : 0 < N) (hM : 0 < M') (xs : List α) (s)
    (h : (wrap (overEcho (smaCore (α := α) N)) (smaCore M')).run ((overEcho (smaCore (α := α) N)).init, (smaCore (α := α) M').init) xs = .ok s) :
    (wrap (overEcho (smaCore (α := α) N)) (smaCore M')).size s ≤ (0 + N) + M' :=
  chain_bounded _ _ (0 + N) M'
    (fun xs a ha => chain_bounded echoV (smaCore N) 0 N (fun _ _ _ => Nat.le_refl 0) (sma_bounded N hN) xs a ha)
    (sma_bounded M' hM) xs s h

section two_inner
variable [Transc α]
/-- EhlersFisherTransform keeps at most N window values and 2 outputs besides what its moving average keeps -/
theorem fisher_bounded (N : Nat) (hN : 0 < N) (ma : View α) (maS : List α → Option α) (hR : Eft.Realises ma maS) (nA : Nat)
    (hA : ∀ fed m, ma.run ma.init fed = .ok m → ma.size m ≤ nA) : Core.SizeBounded (eftCore N ma) (N + 2 + nA) :=
  fun xs s h => Nat.add_le_add (Eft.size_le N hN ma maS hR xs s h)
    (hA _ _ (SF.Core.inv_of_run (Eft.run_ok N hN ma maS hR) h).hma)

/-- PolarizedFractalEfficiency keeps at most N window values besides what its moving average keeps -/
theorem pfe_bounded (N : Nat) (hN : 3 ≤ N) (ma : View α) (maS : List α → Option α) (hR : Eft.Realises ma maS) (nA : Nat)
    (hA : ∀ fed m, ma.run ma.init fed = .ok m → ma.size m ≤ nA) : Core.SizeBounded (pfeCoreU N ma) (N + nA) :=
  fun xs s h => Nat.add_le_add (Pfe.size_le N hN ma maS hR xs s h)
    (hA _ _ (SF.Core.inv_of_run (Pfe.run_ok N hN ma maS hR) h).hma)
end two_inner

end SF.C18
