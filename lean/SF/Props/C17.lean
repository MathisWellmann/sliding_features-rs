import SF.Lemmas.Generic
import SF.Expr
/-
  C17 — Views are deterministic values: `last()` is pure and clones are independent.

  In the model a view's state is an immutable value, `upd : σ → α → M σ` and `last : σ → M (Option α)` are
  functions: determinism, purity of `last` and independence of copies hold by construction.  The theorems below
  make that explicit for arbitrary interleavings of `update`, `last`, `clone` and updates of the clone.  What ties
  this to the Rust code is (i) the correspondence run over such operation sequences and (ii) the source audit
  (no interior mutability, `last(&self)`), both part of `./check C17`.
-/
namespace SF.C17
variable {α : Type}

/-- operations on an original view and one clone of it -/
inductive Op (α : Type) where
  | upd (x : α)        -- original.update(x)
  | last               -- original.last()
  | clone              -- clone = original.clone()
  | updClone (x : α)   -- clone.update(x)
  | lastClone          -- clone.last()

/-- interpreter: state = (original, clone); collects the answers of every `last` on the original -/
def exec (V : View α) : V.σ × V.σ → List (Op α) → M ((V.σ × V.σ) × List (Option α))
  | st, [] => pure (st, [])
  | (s, c), .upd x :: ops => do
    let s' ← V.upd s x
    exec V (s', c) ops
  | (s, c), .last :: ops => do
    let o ← V.last s
    let (st, os) ← exec V (s, c) ops
    pure (st, o :: os)
  | (s, _), .clone :: ops => exec V (s, s) ops
  | (s, c), .updClone x :: ops => do
    let c' ← V.upd c x
    exec V (s, c') ops
  | (s, c), .lastClone :: ops => do
    let _ ← V.last c
    exec V (s, c) ops

/-- the inputs the original receives -/
def mainInputs : List (Op α) → List α
  | [] => []
  | .upd x :: ops => x :: mainInputs ops
  | _ :: ops => mainInputs ops

/-- **purity of `last`, independence of the clone.** Whatever `last` calls are interleaved, whenever a clone is taken
and whatever the clone is fed afterwards: if the whole sequence completes, the original ends in exactly the state it
reaches when it alone is fed its own inputs. -/
theorem exec_main (V : View α) (s c : V.σ) (ops : List (Op α)) (st : V.σ × V.σ) (os : List (Option α))
    (h : exec V (s, c) ops = .ok (st, os)) : V.run s (mainInputs ops) = .ok st.1 := by
  induction ops generalizing s c st os with
  | nil => cases h; rfl
  | cons op ops ih =>
    cases op with
    | upd x =>
      obtain ⟨s', hu, h⟩ := bind_eq_ok.mp h
      exact bind_eq_ok.mpr ⟨s', hu, ih s' c st os h⟩
    | last =>
      obtain ⟨o, -, h⟩ := bind_eq_ok.mp h
      obtain ⟨⟨st', os'⟩, hr, h⟩ := bind_eq_ok.mp h
      cases h
      exact ih s c st os' hr
    | clone => exact ih s s st os h
    | updClone x =>
      obtain ⟨c', -, h⟩ := bind_eq_ok.mp h
      exact ih s c' st os h
    | lastClone =>
      obtain ⟨_, -, h⟩ := bind_eq_ok.mp h
      exact ih s c st os h

/-- **a clone continues exactly like the original**: taking a copy of the state after `xs` and feeding it `ys` gives
what the original gives on `xs ++ ys`. -/
theorem clone_continues (V : View α) (s s' : V.σ) (xs ys : List α) (h : V.run s xs = .ok s') :
    V.run s' ys = V.run s (xs ++ ys) := by
  rw [View.run_append, h]; rfl

/-- one answer per update (determinism itself needs no theorem: `trace` is a function of the view, the state and the
inputs) -/
theorem trace_length (V : View α) (s : V.σ) (xs : List α) (os : List (Option α))
    (h : V.trace s xs = .ok os) : os.length = xs.length := by
  induction xs generalizing s os with
  | nil => cases h; rfl
  | cons x xs ih =>
    obtain ⟨s', -, o, -, r, hr, rfl⟩ := View.trace_cons_eq_ok.mp h
    rw [List.length_cons, List.length_cons, ih s' r hr]

/-- calling `last` any number of times between updates changes nothing: the answer read after the run is the
answer of the state reached by the updates alone -/
theorem last_after_exec (V : View α) (s c : V.σ) (ops : List (Op α)) (st : V.σ × V.σ) (os : List (Option α))
    (h : exec V (s, c) ops = .ok (st, os)) (s' : V.σ) (hs : V.run s (mainInputs ops) = .ok s') :
    V.last st.1 = V.last s' := by
  have := exec_main V s c ops st os h
  rw [this] at hs; cases hs; rfl

/-- lifted to every tree of the catalogue syntax: the statements above hold for `denote e` whatever `e` is, since
they hold for every `View`. -/
theorem all_trees [Add α] [Sub α] [Mul α] [Div α] [Neg α] [NatCast α] [LT α] [DecidableLT α] [LE α]
    [DecidableLE α] [BEq α] [FloatLike α] [Transc α]
    (e : VE α) (V : View α) (_ : denote e = .ok V) (ops : List (Op α)) (st : V.σ × V.σ) (os : List (Option α))
    (h : exec V (V.init, V.init) ops = .ok (st, os)) : V.run V.init (mainInputs ops) = .ok st.1 :=
  exec_main V V.init V.init ops st os h

end SF.C17

namespace SF.C17.Example
instance : FloatLike Int := ⟨fun _ => true, fun _ => false, 0, 0⟩
/-- a concrete interleaving on `Sma(2)`: the hypotheses of `exec_main` are met -/
example : ∃ st os, exec (overEcho (smaCore (α := Int) 2)) ((overEcho (smaCore (α := Int) 2)).init, (overEcho (smaCore (α := Int) 2)).init)
    [.upd 1, .last, .last, .clone, .updClone 9, .upd 3, .lastClone, .last] = .ok (st, os) ∧ os = [none, none, some 2] :=
  ⟨_, _, rfl, rfl⟩
end SF.C17.Example
