import SF.Props.C07
import SF.Lemmas.Rsi
import SF.Lemmas.MyRsi
import SF.Lemmas.Invariance
/-
  C05 — RSI family equals gains/losses over the N most recent changes.
  `Spec.rsi` / `Spec.myRsi` ARE the statement's formulas (d_0 = 0, G / L over the last N changes, 100 when L = 0, hold
  while G + L = 0).  `rsi_eq` / `myrsi_eq`: the incremental state machines (avg_gain / avg_loss resp. cu / cd with the
  `old_ref` / `oldest_val` / `last_val` bookkeeping) report exactly those formulas, for every N ≥ 1 and every history, at
  every step.  The remaining theorems are the consequences the property lists, proved on the definitions: negation
  symmetry, monotone windows, formula.  The ranges are `C07.rsi_range`, `myrsi_ratio_range`, `rsi_view_range`,
  `myrsi_view_range`; C07 is imported only so that `./check C05` builds them.
-/
namespace SF.C05
open Spec
set_option linter.unusedSectionVars false
variable {α : Type} [Field α] [LinearOrder α] [IsStrictOrderedRing α] [FloatLike α] [ExactScalar α]

/-- **Rsi's state machine equals the statement's formula.** For every N ≥ 1 and every history (ties, monotone runs, spikes
entering and leaving the window, flat stretches after volatile ones), at every step: the incrementally maintained
`avg_gain`, `avg_loss` (with `old_ref` / `last_val` bookkeeping) are G/N and L/N over exactly the N most recent changes, and
the reported value is 100·G/(G+L), 100 when L = 0, nothing before the N-th value.  (The statement is about the reported
value; what the state holds is `Rsi.st`.) -/
theorem rsi_eq (N : Nat) (hN : 0 < N) (xs : List α) :
    (rsiCore (α := α) N).outAfter xs = .ok (Spec.rsi N xs) := Rsi.outAfter_eq N hN xs

/-- **MyRSI's state machine equals the statement's formula**: `cu`, `cd` are G and L over exactly the N most recent
changes; the output is (G−L)/(G+L), the previous output (initially 0) being kept while G+L = 0; from the N-th value on.
(State: `MyRsi.st`.) -/
theorem myrsi_eq (N : Nat) (hN : 0 < N) (xs : List α) :
    (myRsiCore (α := α) N).outAfter xs = .ok (Spec.myRsi N xs) := MyRsi.outAfter_eq N hN xs

theorem rsi_of_guard (N : Nat) (xs : List α) (hlen : ¬ (xs.length < N || xs.isEmpty)) :
    Spec.rsi N xs = some (if losses N xs = 0 then 100 else 100 * gains N xs / (gains N xs + losses N xs)) := by
  rw [Bool.or_eq_true, not_or, decide_eq_true_eq, not_lt, List.isEmpty_iff] at hlen
  exact Rsi.rsi_of_le N xs hlen.2 hlen.1

/-- negating the input maps Rsi to 100 − Rsi whenever the window is not flat (G + L ≠ 0) -/
theorem rsi_neg (N : Nat) (xs : List α) (hlen : ¬ (xs.length < N || xs.isEmpty))
    (hflat : gains N xs + losses N xs ≠ 0) :
    Spec.rsi N (xs.map fun x => -x) = (Spec.rsi N xs).map fun v => 100 - v := by
  have hlen' : ¬ ((xs.map fun x => -x).length < N || (xs.map fun x => -x).isEmpty) := by
    simpa using hlen
  rw [rsi_of_guard N _ hlen', rsi_of_guard N xs hlen, Invar.gains_neg, Invar.losses_neg]
  simp only [Option.map_some, Option.some.injEq]
  by_cases hL0 : losses N xs = 0
  · have hG0 : gains N xs ≠ 0 := by intro h0; apply hflat; rw [h0, hL0]; simp
    simp [hL0, hG0]
  · by_cases hG0 : gains N xs = 0
    · simp [hG0, hL0]
    · have hs' : losses N xs + gains N xs ≠ 0 := by rwa [add_comm]
      simp only [hL0, hG0, if_false]
      field_simp; ring

/-- MyRSI's ratio flips sign under negation -/
theorem myrsi_ratio_neg (N : Nat) (xs : List α) :
    (gains N (xs.map fun x => -x) - losses N (xs.map fun x => -x)) / (gains N (xs.map fun x => -x) + losses N (xs.map fun x => -x))
      = -((gains N xs - losses N xs) / (gains N xs + losses N xs)) := by
  rw [Invar.gains_neg, Invar.losses_neg, add_comm (losses N xs), ← neg_div]; congr 1; ring

/-- a window without declines has L = 0, so Rsi = 100 -/
theorem rsi_no_decline (N : Nat) (xs : List α) (hlen : ¬ (xs.length < N || xs.isEmpty))
    (h : ∀ d ∈ lastN N (changes xs), 0 ≤ d) : Spec.rsi N xs = some 100 := by
  have hL : losses N xs = 0 :=
    sumL_map_eq_zero _ _ fun d hd => by
      rcases (h d hd).lt_or_eq with h1 | h1
      · simp [h1]
      · simp [← h1]
  rw [rsi_of_guard N xs hlen]; simp [hL]

/-- a window without advances has G = 0, so Rsi = 0 as soon as it has a decline -/
theorem rsi_no_advance (N : Nat) (xs : List α) (hlen : ¬ (xs.length < N || xs.isEmpty))
    (h : ∀ d ∈ lastN N (changes xs), d ≤ 0) (hL : losses N xs ≠ 0) : Spec.rsi N xs = some 0 := by
  have hG : gains N xs = 0 := sumL_map_eq_zero _ _ fun d hd => by simp [not_lt.mpr (h d hd)]
  rw [rsi_of_guard N xs hlen]; simp [hG, hL]

/-- Rsi's value is 100·G/(G+L), i.e. the statement's formula, whenever L ≠ 0 -/
theorem rsi_formula (N : Nat) (xs : List α) (hlen : ¬ (xs.length < N || xs.isEmpty)) (hL : losses N xs ≠ 0) :
    Spec.rsi N xs = some (100 * gains N xs / (gains N xs + losses N xs)) := by
  rw [rsi_of_guard N xs hlen]; simp [hL]

end SF.C05
