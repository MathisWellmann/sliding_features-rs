import SF.Lemmas.SuperSmoother
import SF.Lemmas.Lagf
import SF.Lemmas.Roof
import SF.Lemmas.LagRsi
import SF.Lemmas.Flex
import SF.Lemmas.CyberCycle
import SF.Lemmas.Eft
import SF.Lemmas.Pfe
import SF.Lemmas.Ema
import SF.Lemmas.Sma
import Mathlib.Analysis.Real.Pi.Bounds
/-
  C11 — Ehlers-style indicators follow their defining difference equations.
  SuperSmoother — at every step the output equals the batch re-evaluation, from the complete history,
  of  f(t) = c1·(x(t)+x(t−1))/2 + b1·f(t−1) + c3·f(t−2)  with zero initial state, reported from the N-th value on,
  where a1 = exp(−1.414·π/N), b1 = 2·a1·cos(4.4422/N), c3 = −a1², c1 = 1 − b1 − c3 (the code's literal 4.4422 for
  1.414·π; `literal_close` bounds the difference).  I.e. the register shuffling `filt_2 = filt_1; filt_1 = filt`
  is proved equal to plain delays.  All nine views of the statement are characterised below (`…_eq`): state machine =
  batch re-evaluation, for every admissible N and every history; `./check C11` ties these models to the code and
  evaluates the same executable specs against the implementation in exact arithmetic.
-/
namespace SF.C11
open SF.Spec
set_option linter.unusedSectionVars false
variable {α : Type} [Field α] [LinearOrder α] [IsStrictOrderedRing α] [FloatLike α] [ExactScalar α] [Transc α]

/-- SuperSmoother = its difference equation, every N ≥ 1, every history -/
theorem superSmoother_eq (N : Nat) (hN : 0 < N) (xs : List α) :
    (ssCore (α := α) N).outAfter xs = .ok (Spec.superSmoother N xs) := by
  rw [(SS.tracks N).outAfter]
  exact SS.out_st N hN xs

/-- **LaguerreFilter = the four-stage Laguerre ladder** L0 = (1−γ)x + γL0[1], Lk = −γL(k−1) + L(k−1)[1] + γLk[1], all stages
started at the first value, output (L0 + 2L1 + 2L2 + L3)/6 — for every γ and every history (the trimmed vectors and
`len − 1` / `len − 2` indexing are proved equal to plain delays) -/
theorem laguerreFilter_eq (g : α) (xs : List α) :
    (lagfCore (α := α) g).outAfter xs = .ok (Spec.laguerreFilter g xs) := by
  rw [(Lagf.tracks g).outAfter, Lagf.out_st]

/-- **CyberCycle equals the batch re-evaluation** (N ≥ 6, the least window its constructor accepts): c(t) = 0 for t < N−1;
then c(t) = (1−α/2)²·(s(t) − 2s(t−1) + s(t−2)) + 2(1−α)·c(t−1) − (1−α)²·c(t−2) with s the 4-tap smoothing
(x(t) + 2x(t−1) + 2x(t−2) + x(t−3))/6 and α = 2/(N+1) -/
theorem cyberCycle_eq (N : Nat) (hN : 6 ≤ N) (xs : List α) :
    (ccCoreU (α := α) N).outAfter xs = .ok (Spec.cyberCycle N xs) :=
  Core.outAfter_of_inv _ (CC.Inv N) (Spec.cyberCycle N) (CC.run_ok N hN) (CC.out_eq N hN) xs

/-- **TrendFlex equals the batch re-evaluation** (N ≥ 3, the least window that holds two previous filter values): the
flex smoother a1 = exp(−8.88442402435/N), b1 = 2·a1·cos(4.44221201218/N) started with x(−1) = x(0); the mean over N of the
deviations of the newest filter value from the last min(t+1, N) filter values; divided by the root of its 0.04/0.96
leaky mean square (0 while that is 0) -/
theorem trendFlex_eq (N : Nat) (hN : 3 ≤ N) (xs : List α) :
    (tflexCore (α := α) N).outAfter xs = .ok (Spec.trendFlex N xs) := by
  rw [TrendFlex.trendFlex_eq_specG, (TrendFlex.tracks N hN).outAfter]
  exact Flex.out_st N false _ xs

/-- **ReFlex equals the batch re-evaluation** (N ≥ 3): as TrendFlex with the deviations taken from the line through the
newest and the oldest filter value of the window (slope correction), the previous output being held while the mean square is 0 -/
theorem reFlex_eq (N : Nat) (hN : 3 ≤ N) (xs : List α) :
    (rflexCore (α := α) N).outAfter xs = .ok (Spec.reFlex N xs) := by
  rw [ReFlex.reFlex_eq_specG, (ReFlex.tracks N hN).outAfter]
  exact Flex.out_st N true _ xs

omit [Transc α] in
/-- **LaguerreRSI equals the batch re-evaluation**: gamma = 2/(N+1); the first two values only fill the zero initial
state; then the four-stage ladder from zeros and CU/(CU+CD) over the three adjacent stage pairs, the previous value being
kept while CU+CD = 0.  Every N, every history; no panic. -/
theorem laguerreRsi_eq (N : Nat) (xs : List α) :
    (lagRsiCore (α := α) N).outAfter xs = .ok (Spec.laguerreRsi N xs) :=
  ((LagRsi.tracks N).outAfter xs).trans (LagRsi.out_st N xs)

/-- one step of the ladder, as the spec evaluates it -/
theorem laguerre_ladder_step (g : α) (init : α × α × α × α) (r : List α) (x : α) :
    lagLadder g init (r ++ [x]) =
      (let s := lagLadder g init r
       let n0 := (1 - g) * x + g * s.1
       let n1 := -g * n0 + s.1 + g * s.2.1
       let n2 := -g * n1 + s.2.1 + g * s.2.2.1
       let n3 := -g * n2 + s.2.2.1 + g * s.2.2.2
       (n0, n1, n2, n3)) := by
  rw [Lagf.ladder_snoc]; simp

/-- **RoofingFilter(N, M) = SuperSmoother(M) fed with the two-pole high-pass values hp(N+1), hp(N+2), …**, where
hp(t) = (1−α/2)²(x(t) − 2x(t−1) + x(t−2)) + 2(1−α)hp(t−1) − (1−α)²hp(t−2), α = (cos θ + sin θ − 1)/cos θ, θ = 4.4422/N, zero initial
state — every N, every M ≥ 1, every history -/
theorem roofing_eq (N M' : Nat) (hM : 0 < M') (xs : List α) :
    (roofCoreU (α := α) N M').outAfter xs = .ok (Spec.roofing N M' xs) := by
  rw [(Roof.tracks N M').outAfter, Roof.out_st N M' hM]

/-- the high-pass recursion, as the spec evaluates it -/
theorem roofing_hp_step (N : Nat) (xs : List α) (x : α) :
    hpSeq N (xs ++ [x]) = Roof.hpNext N (Roof.hpFold N xs) x :: hpSeq N xs := by
  rw [Roof.hpSeq_eq, Roof.hpFold_snoc]; rfl

/-- the difference equation the spec evaluates: appending x(t) to the history prepends
f(t) = c1·(x(t) + x(t−1))/2 + b1·f(t−1) + c3·f(t−2) to the sequence of filter values (f(−1) = f(−2) = 0, x(−1) = pad) -/
theorem smoothSeq_step (c : Coef α) (pad : α) (xs : List α) (x : α) :
    smoothSeq c pad (xs ++ [x]) =
      (c.c1 * (x + (SS.foldState c pad xs).2) / 2 + c.b1 * (smoothSeq c pad xs).headD 0
        + c.c3 * (smoothSeq c pad xs).tail.headD 0) :: smoothSeq c pad xs := by
  rw [SS.smoothSeq_eq, SS.foldState_snoc]; simp [SS.smoothSeq_eq]

/-- `x(t−1)`: the second component of the fold state is the previous input (the pad before the first) -/
theorem prev_input (c : Coef α) (pad : α) (xs : List α) : (SS.foldState c pad xs).2 = (xs.getLast?).getD pad :=
  SS.prev_input c pad xs

/-- the coefficients are functions of the window length only, with exactly the stated formulas -/
theorem coefficients (N : Nat) :
    let a1 : α := Transc.exp (-(1414 / 1000) * (3141592653589793 / 1000000000000000) / (N : α))
    (Spec.ssCoef (α := α) N).b1 = 2 * a1 * Transc.cos (44422 / 10000 / (N : α)) ∧
    (Spec.ssCoef (α := α) N).c3 = -(a1 * a1) ∧
    (Spec.ssCoef (α := α) N).c1 = 1 - (Spec.ssCoef (α := α) N).b1 - (Spec.ssCoef (α := α) N).c3 := by
  simp [Spec.ssCoef]

/-- and the model uses the same ones -/
theorem model_coefficients (N : Nat) :
    ((SF.ssCoef (α := α) N).c1, (SF.ssCoef (α := α) N).c2, (SF.ssCoef (α := α) N).c3)
      = ((Spec.ssCoef (α := α) N).c1, (Spec.ssCoef (α := α) N).b1, (Spec.ssCoef (α := α) N).c3) := SS.coef_eq N

/-- a moving-average view "realises" a batch function when it never panics and, after being fed any list, reports that
function of the list.  Every core characterised in C02/C04, run over Echo, does. -/
theorem realises_overEcho (B : Core α) (spec : List α → Option α) (h : ∀ xs, B.outAfter xs = .ok (spec xs)) :
    Eft.Realises (overEcho B) spec := Eft.realises_overEcho B spec h

/-- **EhlersFisherTransform equals the batch re-evaluation**, every N ≥ 1, every history, every realising moving average:
window min-max normalisation into [−1, 1] (the cached high / low are proved to be the extrema of exactly the last N values,
rescans and the emptied-window default included), smoothing, clamp to ±0.99, 0.5·ln((1+v)/(1−v)) + 0.5·previous;
0 on a flat window and for the first smoothed value -/
theorem fisher_eq (N : Nat) (hN : 0 < N) (ma : View α) (maS : List α → Option α) (hR : Eft.Realises ma maS) (xs : List α) :
    (eftCore N ma).outAfter xs = .ok (Spec.fisher N maS xs) :=
  Core.outAfter_of_inv _ (Eft.Inv N ma maS) (Spec.fisher N maS) (Eft.run_ok N hN ma maS hR)
    (fun s xs h => by rw [Eft.fisher_eq_fold, ← h.hout]; rfl) xs

/-- … in particular with the Ema(M) the crate's examples use, and with an Sma(M) -/
theorem fisher_ema_eq (N M' : Nat) (hN : 0 < N) (hM : 0 < M') (xs : List α) :
    (eftCore N (overEcho (emaCore (α := α) M' (nat 2)))).outAfter xs = .ok (Spec.fisher N (Spec.ema M' (nat 2)) xs) :=
  fisher_eq N hN _ _ (Eft.realises_overEcho _ _ (Ema.outAfter_eq M' hM (nat 2))) xs
theorem fisher_sma_eq (N M' : Nat) (hN : 0 < N) (hM : 0 < M') (xs : List α) :
    (eftCore N (overEcho (smaCore (α := α) M'))).outAfter xs = .ok (Spec.fisher N (Spec.sma M') xs) :=
  fisher_eq N hN _ _ (Eft.realises_overEcho _ _ (Sma.outAfter_eq M' hM)) xs

/-- **PolarizedFractalEfficiency equals the batch re-evaluation**, every N ≥ 3 (the constructor's minimum), every history,
every realising moving average: from the N-th value on the signed ratio of √((x(t) − x(t−N+1))² + N²) to the summed
√(d² + 1) over the window's N−2 most recent steps (negative when the last step is down) is fed to the average -/
theorem pfe_eq (N : Nat) (hN : 3 ≤ N) (ma : View α) (maS : List α → Option α) (hR : Eft.Realises ma maS) (xs : List α) :
    (pfeCoreU N ma).outAfter xs = .ok (Spec.pfe N maS xs) :=
  Core.outAfter_of_inv _ (Pfe.Inv N ma maS) (Spec.pfe N maS) (Pfe.run_ok N hN ma maS hR)
    (fun s xs h => by
      simp only [pfeCoreU, h.hout]
      cases Spec.pfe N maS xs with
      | none => rfl
      | some v => simp [ok_bind, pure_eq_ok]) xs

theorem pfe_ema_eq (N M' : Nat) (hN : 3 ≤ N) (hM : 0 < M') (xs : List α) :
    (pfeCoreU N (overEcho (emaCore (α := α) M' (nat 2)))).outAfter xs = .ok (Spec.pfe N (Spec.ema M' (nat 2)) xs) :=
  pfe_eq N hN _ _ (Eft.realises_overEcho _ _ (Ema.outAfter_eq M' hM (nat 2))) xs
theorem pfe_sma_eq (N M' : Nat) (hN : 3 ≤ N) (hM : 0 < M') (xs : List α) :
    (pfeCoreU N (overEcho (smaCore (α := α) M'))).outAfter xs = .ok (Spec.pfe N (Spec.sma M') xs) :=
  pfe_eq N hN _ _ (Eft.realises_overEcho _ _ (Sma.outAfter_eq M' hM)) xs

/-- the ratio sequence grows by exactly one entry per value once N values exist (and is empty before) -/
theorem pfe_ratios_step (N : Nat) (hN : 1 ≤ N) (xs : List α) (x : α) :
    pfeRatios N (xs ++ [x]) = pfeRatios N xs ++ (if xs.length + 1 < N then [] else [Pfe.ratioAt N (xs ++ [x]) xs.length]) :=
  Pfe.pfeRatios_snoc N hN xs x

/-- for window lengths below 3 the crate's convention "window of N filter values including the current one" drops the
feedback terms that would reach outside the window; `trendFlexW` / `reFlexW` are the batch definitions for EVERY N (used by
`./check C11` as the oracle for N = 1, 2 as well), and coincide with the ones characterised above from N = 3 on -/
theorem flexCoefW_eq (N : Nat) (hN : 3 ≤ N) : Spec.flexCoefW (α := α) N = Spec.flexCoef N := by
  simp only [Spec.flexCoefW, show 2 ≤ N by omega, hN, if_true]

theorem trendFlexW_eq (N : Nat) (hN : 3 ≤ N) (xs : List α) : Spec.trendFlexW N xs = Spec.trendFlex N xs := by
  simp only [Spec.trendFlexW, Spec.trendFlex, flexCoefW_eq N hN]

theorem reFlexW_eq (N : Nat) (hN : 3 ≤ N) (xs : List α) : Spec.reFlexW N xs = Spec.reFlex N xs := by
  simp only [Spec.reFlexW, Spec.reFlex, flexCoefW_eq N hN]

end SF.C11

namespace SF.C11.Real
/-- the code's literal 4.4422 stands for 1.414·π: they differ by less than 2·10⁻⁵ -/
theorem literal_close : |(44422 / 10000 : ℝ) - 1.414 * Real.pi| < 2 / 100000 := by
  have h1 := Real.pi_gt_d6
  have h2 := Real.pi_lt_d6
  rw [abs_lt]
  constructor <;> linarith only [h1, h2]
end SF.C11.Real
