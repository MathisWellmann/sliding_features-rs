import SF.Lemmas.Generic
import SF.Expr
/-
  C01 — Chaining: a wrapper sees exactly its inner view's outputs.

  All theorems are over an arbitrary scalar type `α` (no algebra is used), hence they hold of the `Float`
  instantiation that is compared bit-for-bit with the Rust code, as well as of every field.
  `AllFinite xs` is the property's "finite inputs" hypothesis (it discharges the `debug_assert!` of the head).
-/
namespace SF.C01
variable {α : Type} [FloatLike α]

/-- **C01 (unary wrappers).** For ANY inner view `A`, ANY core `B`, any states and any finite input sequence on
which stand-alone `A` reports the answers `os` (one per update, `none` where it has nothing): the sequence of answers
of the chain `wrap A B` after every update is obtained by feeding `B` — over Echo — exactly the values `A` reported,
only at the steps where it reported one (`Core.feed`).  A panic of `B` shows up identically on both sides. -/
theorem wrap_trace (A : View α) (B : Core α) (a : A.σ) (b : B.σ) (xs : List α) (hx : AllFinite xs)
    (os : List (Option α)) (hA : A.trace a xs = .ok os) :
    (wrap A B).trace (a, b) xs = B.feed b os := by
  induction xs generalizing a b os with
  | nil => cases hA; rfl
  | cons x xs ih =>
    obtain ⟨a', hu, o, hl, r, hr, rfl⟩ := View.trace_cons_eq_ok.mp hA
    rw [View.trace_cons, wrap_upd, Core.feed_cons]
    simp only [assertFinite_ok hx.head, hu, hl, ok_bind, bind_assoc, pure_eq_ok]
    -- both sides now begin with `B.deliver b o`
    exact bind_congr fun b' => by rw [ih a' b' hx.tail r hr]

/-- If the chain completes on the inputs, so does stand-alone `A` (a panic of `A` is a panic of the chain). -/
theorem wrap_trace_ok_inner (A : View α) (B : Core α) (a : A.σ) (b : B.σ) (xs : List α) (hx : AllFinite xs)
    (os : List (Option α)) (h : (wrap A B).trace (a, b) xs = .ok os) : ∃ os', A.trace a xs = .ok os' := by
  obtain ⟨s, hs⟩ := View.trace_ok_run h
  exact ((wrap_run_eq_ok hx).mp hs).imp fun _ h => h.1

/-- The state of the chain is the pair (state of stand-alone `A`, state of `B`): the inner view inside a chain
evolves exactly as it does alone — every raw input reaches it exactly once per update, in order. -/
theorem wrap_run_fst (A : View α) (B : Core α) (a : A.σ) (b : B.σ) (xs : List α) (hx : AllFinite xs)
    (s : (wrap A B).σ) (h : (wrap A B).run (a, b) xs = .ok s) : A.run a xs = .ok s.1 :=
  let ⟨_, _, h1, _⟩ := (wrap_run_eq_ok hx).mp h; h1

/-- **C01 (Tanh).** The mapped view forwards every update unchanged and reports `f` of the child's current answer. -/
theorem mapV_run (f : α → α) (A : View α) (a : A.σ) (xs : List α) (hx : AllFinite xs) :
    (mapV f A).run a xs = A.run a xs :=
  SF.mapV_run f A a hx

theorem mapV_last_none (f : α → α) (A : View α) (a : A.σ) (h : A.last a = .ok none) :
    (mapV f A).last a = .ok none :=
  mapV_last_eq_ok.mpr ⟨none, h, fun _ hv => absurd hv (Option.some_ne_none _).symm, rfl⟩

theorem mapV_last_some (f : α → α) (A : View α) (a : A.σ) (v : α) (h : A.last a = .ok (some v))
    (hv : FloatLike.isFinite v = true) : (mapV f A).last a = .ok (some (f v)) :=
  mapV_last_eq_ok.mpr ⟨some v, h, fun _ hw => Option.some.inj hw ▸ hv, rfl⟩

/-- **C01 (binary combinators), state.** Both children receive every raw input, once, in order: the state of the
combining node after `xs` is the pair of the children's stand-alone states. -/
theorem binop_run (f : α → α → M α) (A B : View α) (a : A.σ) (b : B.σ) (xs : List α) (hx : AllFinite xs)
    (a' : A.σ) (b' : B.σ) (ha : A.run a xs = .ok a') (hb : B.run b xs = .ok b') :
    (binop f A B).run (a, b) xs = .ok (a', b') :=
  SF.binop_run f A B hx ha hb

/-- **C01 (binary combinators), answer.** A combining node reports a value only when both children do … -/
theorem binop_last_none_left (f : α → α → M α) (A B : View α) (a : A.σ) (b : B.σ) (ob : Option α)
    (ha : A.last a = .ok none) (hb : B.last b = .ok ob) : (binop f A B).last (a, b) = .ok none :=
  binop_last_of_none ha hb (Or.inl rfl)

theorem binop_last_none_right (f : α → α → M α) (A B : View α) (a : A.σ) (b : B.σ) (oa : Option α)
    (ha : A.last a = .ok oa) (hb : B.last b = .ok none) : (binop f A B).last (a, b) = .ok none :=
  binop_last_of_none ha hb (Or.inr rfl)

/-- … and then it is `f` of the two current answers. -/
theorem binop_last_some (f : α → α → M α) (A B : View α) (a : A.σ) (b : B.σ) (x y r : α)
    (ha : A.last a = .ok (some x)) (hb : B.last b = .ok (some y))
    (hx : FloatLike.isFinite x = true) (hy : FloatLike.isFinite y = true) (hf : f x y = .ok r) :
    (binop f A B).last (a, b) = .ok (some r) := by
  rw [binop_last_of_some ha hb hx hy, hf]; rfl

theorem binop_last_isSome_iff (f : α → α → M α) (A B : View α) (a : A.σ) (b : B.σ) (oa ob o : Option α)
    (ha : A.last a = .ok oa) (hb : B.last b = .ok ob) (h : (binop f A B).last (a, b) = .ok o) :
    o.isSome → oa.isSome ∧ ob.isSome := by
  intro ho
  cases oa with
  | none => rw [binop_last_none_left f A B a b ob ha hb] at h; cases h; cases ho
  | some x =>
    cases ob with
    | none => rw [binop_last_none_right f A B a b _ ha hb] at h; cases h; cases ho
    | some y => exact ⟨rfl, rfl⟩

/-! ### the catalogue syntax: `denote` gives a node no other meaning than `wrap` / `binop` / `mapV` of its children -/

variable [Add α] [Sub α] [Mul α] [Div α] [Neg α] [NatCast α]
  [LT α] [DecidableLT α] [LE α] [DecidableLE α] [BEq α] [Transc α]

/-- the direct inner view of a unary node -/
def inner : VE α → Option (VE α)
  | .un _ a => some a
  | .un2 _ a _ => some a
  | .tanh a => some a
  | _ => none

theorem denote_un (k : UKind α) (a : VE α) (V : View α) (h : denote (.un k a) = .ok V) :
    ∃ A B, denote a = .ok A ∧ coreOf k = .ok B ∧ V = wrap A B := by
  simp only [denote] at h
  split at h
  · cases h; exact ⟨_, _, ‹_›, ‹_›, rfl⟩
  · cases h
  · cases h

theorem denote_un2 (k : U2Kind) (a ma : VE α) (V : View α) (h : denote (.un2 k a ma) = .ok V) :
    ∃ A MA B, denote a = .ok A ∧ denote ma = .ok MA ∧ core2Of k MA = .ok B ∧ V = wrap A B := by
  simp only [denote] at h
  split at h
  · split at h
    · cases h; exact ⟨_, _, _, ‹_›, ‹_›, ‹_›, rfl⟩
    · cases h
  · cases h
  · cases h

theorem denote_bin (op : BinOp) (a b : VE α) (V : View α) (h : denote (.bin op a b) = .ok V) :
    ∃ A B, denote a = .ok A ∧ denote b = .ok B ∧ V = binop (binF op) A B := by
  simp only [denote] at h
  split at h
  · cases h; exact ⟨_, _, ‹_›, ‹_›, rfl⟩
  · cases h
  · cases h

theorem denote_tanh (a : VE α) (V : View α) (h : denote (.tanh a) = .ok V) :
    ∃ A, denote a = .ok A ∧ V = mapV Transc.tanh A := by
  simp only [denote] at h
  split at h
  · cases h; exact ⟨_, ‹_›, rfl⟩
  · cases h

/-- **C01 for every tree in the catalogue syntax**: whenever a unary node `un k a` denotes a view `V` and the inner
tree `a` denotes `A`, the answers of `V` on any finite input sequence are those of the core fed by `A`'s answers.
(`denote` builds `V` as `wrap A (coreOf k)`; the content is that this is the *only* way a `un` node is given meaning,
so the theorem `wrap_trace` covers all ~40 × 40 compositions and any depth.) -/
theorem C01_chain (k : UKind α) (a : VE α) (V : View α) (h : denote (.un k a) = .ok V) (xs : List α)
    (hx : AllFinite xs) :
    ∃ A B, denote a = .ok A ∧ coreOf k = .ok B ∧
      ∀ os, A.trace A.init xs = .ok os → V.trace V.init xs = B.feed B.init os := by
  obtain ⟨A, B, ha, hb, rfl⟩ := denote_un k a V h
  exact ⟨A, B, ha, hb, fun os hos => wrap_trace A B A.init B.init xs hx os hos⟩

end SF.C01

/-! ### non-vacuity: a concrete two-level chain (at `Int`, whose arithmetic the kernel evaluates) meets the
hypotheses, and the decomposition computes -/
namespace SF.C01.Example
instance : FloatLike Int := ⟨fun _ => true, fun _ => false, 0, 0⟩
example : AllFinite ([1, 3, 5, 7] : List Int) := fun _ _ => rfl

/-- `Sma(2)` over `Sma(2)` over Echo on 1,3,5,7: inner answers `none, 2, 4, 6`; the chain answers `none, none, 3, 5` -/
example : (wrap (overEcho (smaCore (α := Int) 2)) (smaCore 2)).trace
            ((overEcho (smaCore (α := Int) 2)).init, (smaCore (α := Int) 2).init) [1, 3, 5, 7]
          = (smaCore (α := Int) 2).feed (smaCore (α := Int) 2).init [none, some 2, some 4, some 6] :=
  wrap_trace _ _ _ _ _ (fun _ _ => rfl) _ (by rfl)
example : (smaCore (α := Int) 2).feed (smaCore (α := Int) 2).init [none, some 2, some 4, some 6]
          = .ok [none, none, some 3, some 5] := by rfl
end SF.C01.Example
