import SF.Props.C04
import SF.Props.C06
import SF.Props.C11
import SF.Props.C13
import SF.Props.C14
import SF.Lemmas.Rsi
import SF.Lemmas.MyRsi
import SF.Lemmas.AffineMoments
import SF.Lemmas.Bounds
import SF.Lemmas.LagRsi
import Mathlib.Analysis.SpecialFunctions.BinaryEntropy
/-
  C07 — Bounded indicators stay inside their documented range (exact arithmetic).
  Proved here: Min ≤ Sma ≤ Max and Min ≤ newest ≤ Max over the same window; GTE ≥ clip, LTE ≤ clip; Drawdown ∈ [0,1)
  and non-decreasing for positive inputs; |Tanh| < 1, WelfordOnline ≥ 0, WelfordRolling ≥ 0 (at ℝ); Rsi ∈ [0,100],
  MyRSI ∈ [−1,1], HLNormalizer ∈ [−1,1], NET ∈ [−1,1], |CenterOfGravity| ≤ (N−1)/2 for positive inputs, LaguerreRSI ∈ [0,1]
  (any ordered field); BinaryEntropy ∈ [0,1], CTI ∈ [−1,1], |Vsct| ≤ (N−1)/√N, |EhlersFisherTransform| ≤ ln 199,
  Min ≤ Alma ≤ Max (at ℝ) — each on the batch definition and, through the view's characterisation, for the view itself.
  NOT claimed: PolarizedFractalEfficiency ∈ [−1,1] — it is false (known finding K2): on a constant window the quantity fed
  to the moving average evaluates by hand to N/(N−2), and `pfe_const_ratio` below is the inequality N/(N−2) > 1 (it does
  not mention `Spec.pfeRatios`).
  The "few ulps in f64" clause is measured by `./check C07`, not proved.
-/
namespace SF.C07
open SF.Spec
set_option linter.unusedSectionVars false
section
variable {α : Type} [Field α] [LinearOrder α] [IsStrictOrderedRing α]

theorem dd_step_range (d pk x : α) (h0 : 0 ≤ d) (h1 : d < 1) (hpk : 0 < pk) (hx : 0 < x) :
    0 ≤ (if d < (pk - x) / pk then (pk - x) / pk else d) ∧ (if d < (pk - x) / pk then (pk - x) / pk else d) < 1 := by
  by_cases hc : d < (pk - x) / pk
  · simp only [hc, if_true]
    exact ⟨le_trans h0 (le_of_lt hc), by rw [div_lt_one hpk]; linarith⟩
  · simp only [hc, if_false]; exact ⟨h0, h1⟩

/-- (G − L)/(G + L) ∈ [−1, 1] whenever G, L ≥ 0 and G + L ≠ 0: every value MyRSI ever computes; the held value is one
of those or the initial 0 -/
theorem myrsi_ratio_range (G L : α) (hG : 0 ≤ G) (hL : 0 ≤ L) (h : G + L ≠ 0) :
    -1 ≤ (G - L) / (G + L) ∧ (G - L) / (G + L) ≤ 1 :=
  div_mem_Icc (lt_of_le_of_ne (by linarith) (Ne.symm h)) (by linarith) (by linarith)

/-- HLNormalizer's formula 2(x − lo)/(hi − lo) − 1 ∈ [−1, 1] for lo ≤ x ≤ hi, lo < hi -/
theorem hln_formula_range (x lo hi : α) (h1 : lo ≤ x) (h2 : x ≤ hi) (h3 : lo < hi) :
    -1 ≤ 2 * (x - lo) / (hi - lo) - 1 ∧ 2 * (x - lo) / (hi - lo) - 1 ≤ 1 := by
  obtain ⟨h0, h2'⟩ := div_mem_Icc (lo := 0) (hi := 2) (n := 2 * (x - lo)) (sub_pos.2 h3) (by linarith) (by linarith)
  constructor <;> linarith
end

section
variable {α : Type} [Field α] [LinearOrder α] [IsStrictOrderedRing α] [FloatLike α] [ExactScalar α]

/-- Min ≤ Sma ≤ Max over the same window -/
theorem sma_between_min_max (N : Nat) (hN : 0 < N) (xs : List α) (hx : N ≤ xs.length) (lo hi : α)
    (hlo : Spec.wmin N xs = some lo) (hhi : Spec.wmax N xs = some hi) :
    ∃ v, Spec.sma N xs = some v ∧ lo ≤ v ∧ v ≤ hi :=
  C04.sma_interval N hN xs hx lo hi (MinMax.minL_least _ lo hlo).2 (MinMax.maxL_greatest _ hi hhi).2

/-- Min ≤ newest value ≤ Max over the same window -/
theorem newest_between_min_max (N : Nat) (hN : 0 < N) (xs : List α) (x lo hi : α)
    (hlo : Spec.wmin N (xs ++ [x]) = some lo) (hhi : Spec.wmax N (xs ++ [x]) = some hi) : lo ≤ x ∧ x ≤ hi :=
  Hln.newest_mem_Icc N hN (by simp) hlo hhi

/-- GTE ≥ its clip and LTE ≤ its clip, whatever is delivered -/
theorem gte_ge_clip (clip : α) (s : Option α) (v : α) :
    ∃ o, (gteCore clip).step s v = .ok (some o) ∧ clip ≤ o := by
  rw [C14.gte_step]
  by_cases h : clip ≤ v
  · exact ⟨v, by simp [h], h⟩
  · exact ⟨clip, by simp [h], le_refl _⟩

theorem lte_le_clip (clip : α) (s : Option α) (v : α) :
    ∃ o, (lteCore clip).step s v = .ok (some o) ∧ o ≤ clip := by
  rw [C14.lte_step]
  by_cases h : v ≤ clip
  · exact ⟨v, by simp [h], h⟩
  · exact ⟨clip, by simp [h], le_refl _⟩

/-- the running peak stays positive, so every decline (peak − x)/peak is below 1 -/
theorem ddFold_range (xs : List α) (hx : ∀ x ∈ xs, 0 < x) :
    0 ≤ (Rolling.ddFold xs).2 ∧ (Rolling.ddFold xs).2 < 1 ∧ ∀ p, (Rolling.ddFold xs).1 = some p → 0 < p := by
  refine foldl_invariant (fun acc : Option α × α => 0 ≤ acc.2 ∧ acc.2 < 1 ∧ ∀ p, acc.1 = some p → 0 < p) xs
    (fun acc x hxm ⟨h0, h1, hp⟩ => ?_) _ ⟨by simp, by simp, by simp⟩
  have hx0 := hx x hxm
  obtain ⟨o, d⟩ := acc
  simp only at h0 h1 hp ⊢
  cases o with
  | none =>
    have := dd_step_range d x x h0 h1 hx0 hx0
    exact ⟨this.1, this.2, fun q h => by cases h; exact hx0⟩
  | some p =>
    have hpk : 0 < (if p < x then x else p) := by split; exacts [hx0, hp p rfl]
    have := dd_step_range d _ x h0 h1 hpk hx0
    exact ⟨this.1, this.2, fun q h => by cases h; exact hpk⟩

theorem drawdown_range (xs : List α) (hx : ∀ x ∈ xs, 0 < x) :
    0 ≤ Spec.drawdown xs ∧ Spec.drawdown xs < 1 := by
  rw [Rolling.drawdown_eq_fold]
  exact ⟨(ddFold_range xs hx).1, (ddFold_range xs hx).2.1⟩

theorem drawdown_nondecreasing (xs : List α) (x : α) : Spec.drawdown xs ≤ Spec.drawdown (xs ++ [x]) := by
  rw [Rolling.drawdown_eq_fold, Rolling.drawdown_eq_fold, Rolling.ddFold_snoc]
  generalize Rolling.ddFold xs = acc
  obtain ⟨o, d⟩ := acc
  simp only
  split_ifs with hc
  · exact le_of_lt hc
  · exact le_refl _

/-- the view itself: Drawdown ∈ [0,1) for every positive stream -/
theorem drawdown_view_range [Transc α] (hmin : (FloatLike.minValue : α) < 0) (xs : List α) (hx : ∀ x ∈ xs, 0 < x) :
    ∃ v, (drawdownCore (α := α)).outAfter xs = .ok (some v) ∧ 0 ≤ v ∧ v < 1 :=
  ⟨_, C13.drawdown_eq hmin xs hx, (drawdown_range xs hx).1, (drawdown_range xs hx).2⟩

/-- Rsi ∈ [0, 100] -/
theorem rsi_range (N : Nat) (xs : List α) (v : α) (h : Spec.rsi N xs = some v) : 0 ≤ v ∧ v ≤ 100 := by
  simp only [Spec.rsi, Option.ite_none_left_eq_some, Option.some.injEq] at h
  obtain ⟨_, rfl⟩ := h
  have hG := Rsi.gains_nonneg N xs
  have hL := Rsi.losses_nonneg N xs
  split
  · simp
  · rename_i hL0
    have hL0' : Spec.losses N xs ≠ 0 := by simpa using hL0
    have hpos : 0 < Spec.gains N xs + Spec.losses N xs :=
      add_pos_of_nonneg_of_pos hG (lt_of_le_of_ne hL (Ne.symm hL0'))
    simp only [nat_eq, Nat.cast_ofNat]
    exact div_mem_Icc hpos (by linarith only [hG]) (by linarith only [hL])

theorem myRsiHold_range (N : Nat) (xs : List α) : -1 ≤ Spec.myRsiHold N xs ∧ Spec.myRsiHold N xs ≤ 1 := by
  refine foldl_invariant (fun v : α => -1 ≤ v ∧ v ≤ 1) _ (fun v t _ hv => ?_) _ (by simp)
  simp only
  split
  · exact hv
  · rename_i hne
    exact myrsi_ratio_range _ _ (Rsi.gains_nonneg N _) (Rsi.losses_nonneg N _) (by simpa using hne)

theorem hln_range (N : Nat) (xs : List α) (v : α) (h : Spec.hln N xs = some v) : -1 ≤ v ∧ v ≤ 1 := by
  simp only [Spec.hln] at h
  split at h
  · rename_i lo hi x hlo hhi hx
    simp only [Option.some.injEq] at h
    split at h
    · subst h; simp
    · rename_i hne
      subst h
      have hne' : hi ≠ lo := by simpa using hne
      have hN : 0 < N := by
        rcases Nat.eq_zero_or_pos N with rfl | hN
        · -- N = 0: empty window, no minimum
          simp [lastN, minL] at hlo
        · exact hN
      obtain ⟨h1, h2⟩ := Hln.newest_mem_Icc N hN hx hlo hhi
      have h3 : lo < hi := lt_of_le_of_ne (le_trans h1 h2) (Ne.symm hne')
      simp only [nat_eq, Nat.cast_ofNat, Nat.cast_one]
      exact hln_formula_range x lo hi h1 h2 h3
  · simp only [Option.some.injEq] at h; subst h; simp

/-- every value Rsi ever reports lies in [0, 100] -/
theorem rsi_view_range (N : Nat) (hN : 0 < N) (xs : List α) (v : α)
    (h : (rsiCore (α := α) N).outAfter xs = .ok (some v)) : 0 ≤ v ∧ v ≤ 100 := by
  rw [Rsi.outAfter_eq N hN] at h
  exact rsi_range N xs v (Except.ok.inj h)

/-- every value MyRSI ever reports lies in [−1, 1] -/
theorem myrsi_view_range (N : Nat) (hN : 0 < N) (xs : List α) (v : α)
    (h : (myRsiCore (α := α) N).outAfter xs = .ok (some v)) : -1 ≤ v ∧ v ≤ 1 := by
  rw [MyRsi.outAfter_eq N hN] at h
  simp only [Spec.myRsi, Except.ok.injEq, Option.ite_none_left_eq_some, Option.some.injEq] at h
  rw [← h.2]
  exact myRsiHold_range N xs

/-- every value HLNormalizer ever reports lies in [−1, 1] -/
theorem hln_view_range (N : Nat) (hN : 0 < N) (xs : List α) (v : α)
    (h : (hlnCore (α := α) N).outAfter xs = .ok (some v)) : -1 ≤ v ∧ v ≤ 1 := by
  rw [C02.hln_eq N hN] at h
  exact hln_range N xs v (Except.ok.inj h)

/-- N/(N − 2) > 1 for N ≥ 3.  This is the value the ratio fed to PFE's moving average takes on a constant window when its
square roots are evaluated by hand (numerator sqrt(0 + N²) = N, denominator (N − 2) · sqrt(0 + 1) = N − 2; 5/3 for N = 5);
the theorem is the inequality only. -/
theorem pfe_const_ratio (N : Nat) (hN : 3 ≤ N) : (1 : α) < (N : α) / ((N : α) - 2) := by
  have h3 : (3 : α) ≤ (N : α) := by exact_mod_cast hN
  have hp : (0 : α) < (N : α) - 2 := by linarith
  rw [lt_div_iff₀ hp]; linarith

/-- NoiseEliminationTechnology ∈ [−1, 1]: |Σ_{i<j} sgn(w_j − w_i)| ≤ n(n−1)/2 -/
theorem net_range (N : Nat) (xs : List α) (v : α) (h : Spec.net N xs = some v) : -1 ≤ v ∧ v ≤ 1 := by
  simp only [Spec.net, Option.ite_none_left_eq_some, Option.some.injEq] at h
  obtain ⟨hlen, rfl⟩ := h
  set w := lastN N xs
  obtain ⟨hb1, hb2⟩ := abs_le.1 (Bounds.kendallNum_bound w)
  have h2 : (2 : α) ≤ w.length := by exact_mod_cast (by omega : 2 ≤ w.length)
  have hpos : (0 : α) < (w.length : α) * ((w.length : α) - 1) := mul_pos (zero_lt_two.trans_le h2) (by linarith only [h2])
  simp only [kendall, nat_eq, Nat.cast_ofNat, Nat.cast_mul, Nat.cast_sub (by omega : 1 ≤ w.length), Nat.cast_one]
  exact div_mem_Icc (half_pos hpos) (by linarith only [hb1]) (by linarith only [hb2])

theorem net_view_range (N : Nat) (hN : 0 < N) (xs : List α) (v : α)
    (h : (netCore (α := α) N).outAfter xs = .ok (some v)) : -1 ≤ v ∧ v ≤ 1 := by
  rw [C06.net_eq_kendall N hN] at h
  exact net_range N xs v (Except.ok.inj h)

/-- |CenterOfGravity| ≤ (N−1)/2 for positive inputs: Σ_k k·x_k / Σ_k x_k lies between the weights 1 and n, and the value
is (n+1)/2 minus that ratio (`Cog.spec_eq_wsum`) -/
theorem cog_range (N : Nat) (hN : 0 < N) (xs : List α) (hpos : ∀ x ∈ xs, 0 < x) (v : α) (h : Spec.cog N xs = some v) :
    -(((N : α) - 1) / 2) ≤ v ∧ v ≤ ((N : α) - 1) / 2 := by
  simp only [Cog.spec_eq_wsum, Option.ite_none_left_eq_some, Option.some.injEq] at h
  obtain ⟨hne, h⟩ := h
  set w := lastN N xs
  have hw : ∀ x ∈ w, 0 < x := fun x hx => hpos x (List.mem_of_mem_drop hx)
  have hden := sumL_pos w hne hw
  obtain ⟨h1, h2⟩ := Cog.wsum_bounds w fun y hy => (hw y hy).le
  rw [if_neg hden.ne'] at h
  obtain ⟨hq1, hq2⟩ := div_mem_Icc hden ((one_mul _).trans_le h1) h2
  have hnN : (w.length : α) ≤ N := by exact_mod_cast lastN_length_le N xs
  exact ⟨by linarith only [h, hq2, hnN], by linarith only [h, hq1, hnN]⟩

theorem cog_view_range (N : Nat) (hN : 0 < N) (xs : List α) (hpos : ∀ x ∈ xs, 0 < x) (v : α)
    (h : (cogCore (α := α) N).outAfter xs = .ok (some v)) : -(((N : α) - 1) / 2) ≤ v ∧ v ≤ ((N : α) - 1) / 2 := by
  rw [C06.cog_eq N hN] at h
  exact cog_range N hN xs hpos v (Except.ok.inj h)

/-- LaguerreRSI ∈ [0, 1]: CU, CD ≥ 0 and the value is CU/(CU+CD) or a held earlier one -/
theorem laguerreRsi_range (N : Nat) (xs : List α) (v : α) (h : Spec.laguerreRsi N xs = some v) : 0 ≤ v ∧ v ≤ 1 := by
  rw [LagRsi.spec_eq, LagRsi.specState] at h
  exact foldl_invariant (fun acc => ∀ v, acc.2 = some v → 0 ≤ v ∧ v ≤ 1) _ (fun acc x _ ha => LagRsi.stepS_range _ acc x ha) _
    (fun v hv => by cases hv) v h

theorem laguerreRsi_view_range (N : Nat) (xs : List α) (v : α)
    (h : (lagRsiCore (α := α) N).outAfter xs = .ok (some v)) : 0 ≤ v ∧ v ≤ 1 := by
  rw [C11.laguerreRsi_eq N xs] at h
  exact laguerreRsi_range N xs v (Except.ok.inj h)
end

/-- BinaryEntropy ∈ [0, 1] (ℝ): it is the binary entropy function, in bits, of a fraction in [0,1] -/
theorem entropy_range (N : Nat) (xs : List ℝ) (v : ℝ) (h : Spec.entropy N xs = some v) : 0 ≤ v ∧ v ≤ 1 := by
  simp only [Spec.entropy, Option.ite_none_left_eq_some, Option.some.injEq] at h
  obtain ⟨hne, rfl⟩ := h
  set w := lastN N xs
  have hwne : w ≠ [] := by simpa using hne
  have hlen : (0 : ℝ) < w.length := by exact_mod_cast List.length_pos_of_ne_nil hwne
  set p : ℝ := nat (w.filter fun x => nat 0 ≤ x).length / nat w.length with hp
  have hp0 : 0 ≤ p := by rw [hp]; simp only [nat_eq]; positivity
  have hp1 : p ≤ 1 := by
    rw [hp]; simp only [nat_eq]
    rw [div_le_one hlen]
    exact_mod_cast List.length_filter_le _ w
  rw [Bounds.entropy_term p, Bounds.entropy_term (nat 1 - p)]
  have hb : -(p * Real.log p / Real.log 2 + (nat 1 - p) * Real.log (nat 1 - p) / Real.log 2) = Real.binEntropy p / Real.log 2 := by
    simp only [nat_eq, Nat.cast_one]
    rw [Real.binEntropy_eq_negMulLog_add_negMulLog_one_sub, Real.negMulLog, Real.negMulLog]; ring
  rw [hb]
  have hl2 : 0 < Real.log 2 := Real.log_pos (by norm_num)
  exact ⟨div_nonneg (Real.binEntropy_nonneg hp0 hp1) hl2.le, by rw [div_le_one hl2]; exact Real.binEntropy_le_log_two⟩

theorem entropy_view_range (N : Nat) (hN : 0 < N) (xs : List ℝ) (v : ℝ)
    (h : (bentCore (α := ℝ) N).outAfter xs = .ok (some v)) : 0 ≤ v ∧ v ≤ 1 := by
  rw [C02.entropy_eq N hN] at h
  exact entropy_range N xs v (Except.ok.inj h)

/-- CorrelationTrendIndicator ∈ [−1, 1] (ℝ): Cauchy–Schwarz for the centred sums; holds for the zero-padded warm-up
windows too, since it is a fact about the Pearson formula of any list -/
theorem pearson_range (w : List ℝ) : -1 ≤ pearsonIdx w ∧ pearsonIdx w ≤ 1 :=
  abs_le.1 (Bounds.abs_pearson_le w)

theorem cti_view_range (N : Nat) (hN : 0 < N) (xs : List ℝ) (hx : N ≤ xs.length) (v : ℝ)
    (h : (ctiCore (α := ℝ) N).outAfter xs = .ok (some v)) : -1 ≤ v ∧ v ≤ 1 := by
  rw [C06.cti_eq_pearson N hN xs hx] at h
  exact Option.some.inj (Except.ok.inj h) ▸ pearson_range _

/-- Samuelson's inequality for the newest value of a window -/
theorem samuelson_sq {α : Type} [Field α] [LinearOrder α] [IsStrictOrderedRing α] (pre : List α) (x : α) :
    let w := pre ++ [x]
    (w.length : α) * ((x - mean w) * (x - mean w)) ≤ ((w.length : α) - 1) * sumL (w.map fun y => sq (y - mean w)) :=
  Bounds.samuelson pre [] x

/-- |Vsct| ≤ (N−1)/√N (ℝ): Samuelson's inequality n(x−m)² ≤ (n−1)Σ(xᵢ−m)², and (n−1)²/n is increasing in n -/
theorem vsct_abs_bound (N : Nat) (hN : 0 < N) (xs : List ℝ) (v : ℝ) (h : Spec.vsct N xs = some v) :
    |v| ≤ ((N : ℝ) - 1) / Real.sqrt N := by
  have hb := Bounds.vsct_sq_bound N hN xs v h
  have hNr : (1 : ℝ) ≤ N := by exact_mod_cast hN
  have : |v| ≤ Real.sqrt (((N : ℝ) - 1) * ((N : ℝ) - 1) / N) := Real.abs_le_sqrt (by rw [pow_two]; exact hb)
  rwa [Real.sqrt_div (mul_self_nonneg _), Real.sqrt_mul_self (by linarith)] at this

theorem vsct_view_bound (N : Nat) (hN : 0 < N) (xs : List ℝ) (v : ℝ)
    (h : (vsctCoreU (α := ℝ) N).outAfter xs = .ok (some v)) : |v| ≤ ((N : ℝ) - 1) / Real.sqrt N := by
  rw [C02.vsct_eq N hN] at h
  exact vsct_abs_bound N hN xs v (Except.ok.inj h)

/-- |EhlersFisherTransform| ≤ ln 199 (ℝ), for every history and every smoothing average: spec level (the batch
re-evaluation that `./check C11` compares with the implementation exactly) -/
theorem fisher_bound (N : Nat) (ma : List ℝ → Option ℝ) (xs : List ℝ) (v : ℝ) (h : Spec.fisher N ma xs = some v) :
    |v| ≤ Real.log 199 := by
  rw [Eft.fisher_eq_fold] at h
  refine foldl_invariant (fun s : List ℝ × Option ℝ × List ℝ => ∀ p, s.2.1 = some p → |p| ≤ Real.log 199) xs
    (fun s x _ hs => ?_) _ (fun p hp => by cases hp) v h
  simp only [Eft.fishStep]
  split
  · exact Bounds.fishEmit_bound ma _ _ _ _ _ hs
  · exact hs

/-- … and so the view itself: |EhlersFisherTransform| ≤ ln 199 for every N ≥ 1, every stream and every realising moving
average (state machine = spec by C11's `fisher_eq`) -/
theorem fisher_view_bound (N : Nat) (hN : 0 < N) (ma : View ℝ) (maS : List ℝ → Option ℝ) (hR : Eft.Realises ma maS)
    (xs : List ℝ) (v : ℝ) (h : (eftCore N ma).outAfter xs = .ok (some v)) : |v| ≤ Real.log 199 := by
  rw [C11.fisher_eq N hN ma maS hR] at h
  exact fisher_bound N maS xs v (Except.ok.inj h)
end SF.C07

namespace SF.C07.Real
open SF.Spec
/-- Tanh ∈ (−1, 1) -/
theorem tanh_range (A : View ℝ) (a : A.σ) (v : ℝ) (h : A.last a = .ok (some v)) :
    ∃ o, (mapV Transc.tanh A).last a = .ok (some o) ∧ -1 < o ∧ o < 1 :=
  ⟨Real.tanh v, transc_tanh_real v ▸ C14.tanh_last A a v h rfl, Real.neg_one_lt_tanh v, Real.tanh_lt_one v⟩

/-- WelfordOnline ≥ 0 -/
theorem welford_nonneg (N : Nat) (xs : List ℝ) (v : ℝ) (h : Spec.welford N xs = some v) : 0 ≤ v := by
  simp only [Spec.welford, Option.ite_none_left_eq_some, Option.some.injEq] at h
  rw [← h.2]
  exact Inv2.stdOf_nonneg _

/-- WelfordRolling ≥ 0 -/
theorem welfordRolling_nonneg (xs : List ℝ) (v : ℝ) (h : Spec.welfordRolling xs = some v) : 0 ≤ v := by
  simp only [Spec.welfordRolling, Option.ite_none_left_eq_some, Option.some.injEq] at h
  rw [← h.2, transc_sqrt_real]
  exact Real.sqrt_nonneg _

theorem welford_view_nonneg (N : Nat) (hN : 0 < N) (xs : List ℝ) (v : ℝ)
    (h : (welfordCoreU (α := ℝ) N).outAfter xs = .ok (some v)) : 0 ≤ v := by
  rw [C02.welford_last_eq N hN] at h
  exact welford_nonneg N xs v (Except.ok.inj h)

theorem welfordRolling_view_nonneg (xs : List ℝ) (v : ℝ)
    (h : (welfordRollingCore (α := ℝ)).outAfter xs = .ok (some v)) : 0 ≤ v := by
  rw [C13.welfordRolling_last] at h
  exact welfordRolling_nonneg xs v (Except.ok.inj h)

/-- **Alma lies between the minimum and the maximum of its window**, every N ≥ 1, every σ, offset, every history:
any bounds lo ≤ x ≤ hi valid for the (at most N) values in the window are valid for Alma's output -/
theorem alma_between_min_max (N : Nat) (hN : 0 < N) (sigma offset : ℝ) (xs : List ℝ) (lo hi : ℝ)
    (hlo : ∀ x ∈ lastN N xs, lo ≤ x) (hhi : ∀ x ∈ lastN N xs, x ≤ hi) (v : ℝ)
    (h : Spec.alma N sigma offset xs = some v) : lo ≤ v ∧ v ≤ hi := by
  have hx : xs ≠ [] := by rintro rfl; simp [Spec.alma] at h
  obtain ⟨v', hv', hb⟩ := C04.Real.alma_interval N hN sigma offset xs hx lo hi hlo hhi
  rw [hv'] at h
  cases h
  exact hb

/-- … and so for the view itself (state machine = spec by C04 `alma_eq`) -/
theorem alma_view_between_min_max (N : Nat) (hN : 0 < N) (sigma offset : ℝ) (xs : List ℝ) (lo hi : ℝ)
    (hlo : ∀ x ∈ lastN N xs, lo ≤ x) (hhi : ∀ x ∈ lastN N xs, x ≤ hi) (v : ℝ)
    (h : (almaCore (α := ℝ) N sigma offset).outAfter xs = .ok (some v)) : lo ≤ v ∧ v ≤ hi := by
  rw [C04.alma_eq N hN] at h
  exact alma_between_min_max N hN sigma offset xs lo hi hlo hhi v (Except.ok.inj h)

end SF.C07.Real
