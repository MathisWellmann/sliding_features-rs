import SF.Props.C15
#print axioms SF.C15.noPanic_of_total
#print axioms SF.C15.noPanic_of_outAfter
#print axioms SF.C15.assert_some_ok
#print axioms SF.C15.echo_noPanic
#print axioms SF.C15.chain_noPanic
#print axioms SF.C15.overEcho_noPanic
#print axioms SF.C15.sma_noPanic
#print axioms SF.C15.cum_noPanic
#print axioms SF.C15.min_noPanic
#print axioms SF.C15.max_noPanic
#print axioms SF.C15.rsi_noPanic
#print axioms SF.C15.myrsi_noPanic
#print axioms SF.C15.hln_noPanic
#print axioms SF.C15.cog_noPanic
#print axioms SF.C15.net_noPanic
#print axioms SF.C15.laguerreRsi_noPanic
#print axioms SF.C15.welford_noPanic
#print axioms SF.C15.vst_noPanic
#print axioms SF.C15.vsct_noPanic
#print axioms SF.C15.welfordRolling_noPanic
#print axioms SF.C15.roc_noPanic
#print axioms SF.C15.entropy_noPanic
#print axioms SF.C15.alma_noPanic
#print axioms SF.C15.laguerreFilter_noPanic
#print axioms SF.C15.roofing_noPanic
#print axioms SF.C15.cyberCycle_noPanic
#print axioms SF.C15.trendFlex_noPanic
#print axioms SF.C15.reFlex_noPanic
#print axioms SF.C15.ema_noPanic
#print axioms SF.C15.drawdown_noPanic
#print axioms SF.C15.gte_noPanic
#print axioms SF.C15.lte_noPanic
#print axioms SF.C15.lnReturn_noPanic
#print axioms SF.C15.superSmoother_noPanic
#print axioms SF.C15.cti_noPanic
#print axioms SF.C15.min_ctor
#print axioms SF.C15.welford_ctor
#print axioms SF.C15.cc_ctor
#print axioms SF.C15.roof_ctor
#print axioms SF.C15.pfe_ctor
#print axioms SF.C15.alma_ctor
#print axioms SF.C15.alma_ctor_real
#print axioms SF.C15.tanh_noPanic
#print axioms SF.C15.sma_sma_noPanic
#print axioms SF.C15.fisher_noPanic
#print axioms SF.C15.pfe_noPanic
#print axioms SF.C15.add_noPanic
#print axioms SF.C15.sub_noPanic
#print axioms SF.C15.mul_noPanic
#print axioms SF.C15.div_panics_iff
