import SF.Props.C12
#print axioms SF.C12.sma_scale
#print axioms SF.C12.ema_scale
#print axioms SF.C12.cumulative_scale
#print axioms SF.C12.min_scale
#print axioms SF.C12.max_scale
#print axioms SF.C12.min_neg
#print axioms SF.C12.max_neg
#print axioms SF.C12.lnReturn_scale
#print axioms SF.C12.drawdown_scale
#print axioms SF.C12.hln_affine
#print axioms SF.C12.hln_neg
#print axioms SF.C12.net_affine
#print axioms SF.C12.net_neg
#print axioms SF.C12.entropy_scale
#print axioms SF.C12.rsi_scale
#print axioms SF.C12.myRsiHold_scale
#print axioms SF.C12.myrsi_scale
#print axioms SF.C12.cog_scale
#print axioms SF.C12.roc_scale
#print axioms SF.C12.laguerreRsi_scale
#print axioms SF.C12.fisher_affine
#print axioms SF.C12.superSmoother_scale
#print axioms SF.C12.laguerre_scale
#print axioms SF.C12.roofing_scale
#print axioms SF.C12.cyberCycle_scale
#print axioms SF.C12.alma_scale
#print axioms SF.C12.cyberCycle_view_scale
#print axioms SF.C12.Real.welford_affine
#print axioms SF.C12.Real.vsct_affine
#print axioms SF.C12.Real.vsct_neg
#print axioms SF.C12.Real.vst_scale
#print axioms SF.C12.Real.vst_neg
#print axioms SF.C12.Real.cti_affine
#print axioms SF.C12.Real.cti_neg
#print axioms SF.C12.Real.trendFlex_scale
#print axioms SF.C12.Real.reFlex_scale
#print axioms SF.C12.Real.trendFlex_neg
#print axioms SF.C12.Real.reFlex_neg
