import SF.Props.C10
#print axioms SF.C10.lastN_lin
#print axioms SF.C10.emaRec_linear
#print axioms SF.C10.ema_linear
#print axioms SF.C10.superSmoother_linear
#print axioms SF.C10.laguerre_linear
#print axioms SF.C10.roofing_linear
#print axioms SF.C10.cyberCycle_linear
#print axioms SF.C10.dot_lin
#print axioms SF.C10.alma_linear
#print axioms SF.C10.cumulative_linear
#print axioms SF.C10.sma_linear
#print axioms SF.C10.sma_view_linear
#print axioms SF.C10.ema_view_linear
#print axioms SF.C10.cumulative_view_linear
#print axioms SF.C10.sma_dc
#print axioms SF.C10.ema_dc
#print axioms SF.C10.superSmoother_view_linear
#print axioms SF.C10.laguerre_view_linear
#print axioms SF.C10.laguerre_dc
#print axioms SF.C10.cyberCycle_view_linear
#print axioms SF.C10.Real.superSmoother_unit_gain
#print axioms SF.C10.Real.superSmoother_dc_converges
#print axioms SF.C10.Real.superSmoother_rate
#print axioms SF.C10.Real.roofing_dc_decays
#print axioms SF.C10.Real.roofing_rate
#print axioms SF.C10.Real.roofing_view_dc_decays
#print axioms SF.C10.cyberCycle_dc_decays
