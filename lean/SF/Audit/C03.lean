import SF.Props.C03
#print axioms SF.C03.getLast_eq
#print axioms SF.C03.window_eq
#print axioms SF.C03.sma_suffix
#print axioms SF.C03.cumulative_suffix
#print axioms SF.C03.min_suffix
#print axioms SF.C03.max_suffix
#print axioms SF.C03.hln_suffix
#print axioms SF.C03.cog_suffix
#print axioms SF.C03.welford_spec_suffix
#print axioms SF.C03.welford_suffix
#print axioms SF.C03.vst_suffix
#print axioms SF.C03.vsct_suffix
#print axioms SF.C03.entropy_suffix
#print axioms SF.C03.net_suffix
#print axioms SF.C03.cti_suffix
#print axioms SF.C03.rsi_suffix
#print axioms SF.C03.myrsi_suffix
#print axioms SF.C03.alma_suffix
#print axioms SF.C03.sma_forgets_prefix
#print axioms SF.C03.pfe_sma_suffix
#print axioms SF.C03.pfe_sma_view_suffix
#print axioms SF.C03.roc_suffix
