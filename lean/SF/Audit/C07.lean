import SF.Props.C07
#print axioms SF.C07.dd_step_range
#print axioms SF.C07.myrsi_ratio_range
#print axioms SF.C07.hln_formula_range
#print axioms SF.C07.sma_between_min_max
#print axioms SF.C07.newest_between_min_max
#print axioms SF.C07.gte_ge_clip
#print axioms SF.C07.lte_le_clip
#print axioms SF.C07.ddFold_range
#print axioms SF.C07.drawdown_range
#print axioms SF.C07.drawdown_nondecreasing
#print axioms SF.C07.drawdown_view_range
#print axioms SF.C07.rsi_range
#print axioms SF.C07.myRsiHold_range
#print axioms SF.C07.hln_range
#print axioms SF.C07.rsi_view_range
#print axioms SF.C07.myrsi_view_range
#print axioms SF.C07.hln_view_range
#print axioms SF.C07.pfe_const_ratio
#print axioms SF.C07.net_range
#print axioms SF.C07.net_view_range
#print axioms SF.C07.cog_range
#print axioms SF.C07.cog_view_range
#print axioms SF.C07.laguerreRsi_range
#print axioms SF.C07.laguerreRsi_view_range
#print axioms SF.C07.entropy_range
#print axioms SF.C07.entropy_view_range
#print axioms SF.C07.pearson_range
#print axioms SF.C07.cti_view_range
#print axioms SF.C07.samuelson_sq
#print axioms SF.C07.vsct_abs_bound
#print axioms SF.C07.vsct_view_bound
#print axioms SF.C07.fisher_bound
#print axioms SF.C07.fisher_view_bound
#print axioms SF.C07.Real.tanh_range
#print axioms SF.C07.Real.welford_nonneg
#print axioms SF.C07.Real.welfordRolling_nonneg
#print axioms SF.C07.Real.welford_view_nonneg
#print axioms SF.C07.Real.welfordRolling_view_nonneg
#print axioms SF.C07.Real.alma_between_min_max
#print axioms SF.C07.Real.alma_view_between_min_max
