import SF.Props.C06
#print axioms SF.C06.cog_eq
#print axioms SF.C06.cti_eq_pearson
#print axioms SF.C06.net_eq_kendall
#print axioms SF.C06.net_loop_eq
#print axioms SF.C06.kendallNum_neg
#print axioms SF.C06.kendall_neg
#print axioms SF.C06.kendallNum_order_only
#print axioms SF.C06.kendall_order_only
#print axioms SF.C06.kendallNum_increasing
#print axioms SF.C06.kendall_increasing
#print axioms SF.C06.kendall_decreasing
#print axioms SF.C06.cog_const
#print axioms SF.C06.K1.cti_monotone_not_one
#print axioms SF.C06.Real.cti_affine_window
#print axioms SF.C06.Real.ks_eq
