import SF.Props.C08
#print axioms SF.C08.ite_none_ne_none
#print axioms SF.C08.ite_none_some_ne_none
#print axioms SF.C08.sma_ready
#print axioms SF.C08.ema_ready
#print axioms SF.C08.cumulative_ready
#print axioms SF.C08.min_ready
#print axioms SF.C08.max_ready
#print axioms SF.C08.welford_ne_none
#print axioms SF.C08.vst_ne_none
#print axioms SF.C08.vsct_ne_none
#print axioms SF.C08.welford_ready
#print axioms SF.C08.vst_ready
#print axioms SF.C08.vsct_ready
#print axioms SF.C08.welfordRolling_ready
#print axioms SF.C08.lnReturn_ready
#print axioms SF.C08.rsi_ready
#print axioms SF.C08.myrsi_ready
#print axioms SF.C08.superSmoother_ne_none
#print axioms SF.C08.superSmoother_ready
#print axioms SF.C08.roofing_ready
#print axioms SF.C08.alma_ready
#print axioms SF.C08.cog_ready
#print axioms SF.C08.entropy_ready
#print axioms SF.C08.laguerreFilter_ready
#print axioms SF.C08.net_ready
#print axioms SF.C08.cyberCycle_ready
#print axioms SF.C08.flexNorm_false_ne_none
#print axioms SF.C08.trendFlex_ready
#print axioms SF.C08.sma_ready_stable
#print axioms SF.C08.fold_opt_stable
#print axioms SF.C08.ite_keep_or_some
#print axioms SF.C08.laguerreRsi_ready_stable
#print axioms SF.C08.wrap_idle
#print axioms SF.C08.binop_ready_iff
#print axioms SF.C08.core_readyStable
#print axioms SF.C08.flex_net_readyStable
#print axioms SF.C08.eftEmit_queue
#print axioms SF.C08.fisher_readyStable
#print axioms SF.C08.chain_readyStable
#print axioms SF.C08.tanh_readyStable
