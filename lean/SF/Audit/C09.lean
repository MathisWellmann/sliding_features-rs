import SF.Props.C09
#print axioms SF.C09.ema_bibo
#print axioms SF.C09.foldl_diff
#print axioms SF.C09.emaRec_diff_decay
#print axioms SF.C09.ema_contraction
#print axioms SF.C09.onePole_bibo
#print axioms SF.C09.onePole_decay
#print axioms SF.C09.chain_bibo
#print axioms SF.C09.ema_over_bibo
#print axioms SF.C09.cyberCycle_bibo
#print axioms SF.C09.cyberCycle_view_bibo
#print axioms SF.C09.cyberCycle_fading
#print axioms SF.C09.cyberCycle_cAt
#print axioms SF.C09.cyberCycle_factor
#print axioms SF.C09.laguerre_bibo
#print axioms SF.C09.laguerre_view_bibo
#print axioms SF.C09.laguerre_fading
#print axioms SF.C09.laguerre_factor
#print axioms SF.C09.Real.pole_radius
#print axioms SF.C09.Real.pole_product
#print axioms SF.C09.Real.superSmoother_bibo
#print axioms SF.C09.Real.superSmoother_view_bibo
#print axioms SF.C09.Real.flex_smoother_bibo
#print axioms SF.C09.Real.twoPole_bibo
#print axioms SF.C09.Real.superSmoother_fading
#print axioms SF.C09.Real.fading_dominates
#print axioms SF.C09.Real.contraction_factor
#print axioms SF.C09.Real.roofing_pole_inside
#print axioms SF.C09.Real.roofing_bibo
#print axioms SF.C09.Real.roofing_view_bibo
#print axioms SF.C09.Real.trendFlex_bound
#print axioms SF.C09.Real.reFlex_bound
#print axioms SF.C09.Real.trendFlex_view_bound
#print axioms SF.C09.Real.reFlex_view_bound
#print axioms SF.C09.Real.lin_common_tail
#print axioms SF.C09.Real.roofing_fading
#print axioms SF.C09.Real.roofing_fading_rate
#print axioms SF.C09.Real.roofing_view_fading
#print axioms SF.C09.Real.superSmoother_fading_outputs
#print axioms SF.C09.Real.ema_over_superSmoother_bibo
