import SF.Props.C04
#print axioms SF.C04.ema_eq
#print axioms SF.C04.emaRec_one
#print axioms SF.C04.emaRec_step
#print axioms SF.C04.default_weight
#print axioms SF.C04.sma_interval
#print axioms SF.C04.sma_mono
#print axioms SF.C04.sma_affine
#print axioms SF.C04.emaRec_rel
#print axioms SF.C04.emaStep_mono
#print axioms SF.C04.emaStep_const
#print axioms SF.C04.emaRec_interval
#print axioms SF.C04.ema_interval
#print axioms SF.C04.emaRec_const
#print axioms SF.C04.emaRec_affine
#print axioms SF.C04.ema_affine
#print axioms SF.C04.emaRec_mono
#print axioms SF.C04.ema_mono
#print axioms SF.C04.alma_eq
#print axioms SF.C04.wmean_interval
#print axioms SF.C04.wmean_const
#print axioms SF.C04.wmean_mono
#print axioms SF.C04.wmean_affine
#print axioms SF.C04.Real.gauss_pos
#print axioms SF.C04.Real.alma_weights_pos
#print axioms SF.C04.Real.almaWeights_length
#print axioms SF.C04.Real.almaWeights_eq
#print axioms SF.C04.Real.almaWeights_pos
#print axioms SF.C04.Real.alma_eq_wmean
#print axioms SF.C04.Real.almaWeights_ne_nil
#print axioms SF.C04.Real.alma_const
#print axioms SF.C04.Real.alma_affine
#print axioms SF.C04.Real.alma_mono
#print axioms SF.C04.Real.alma_interval
