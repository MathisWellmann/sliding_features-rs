import SF.Props.C18
#print axioms SF.C18.Core.sizeBounded_of_run
#print axioms SF.C18.Core.sizeBounded_of_tracks
#print axioms SF.C18.chain_bounded
#print axioms SF.C18.sma_bounded
#print axioms SF.C18.cum_bounded
#print axioms SF.C18.min_bounded
#print axioms SF.C18.max_bounded
#print axioms SF.C18.rsi_bounded
#print axioms SF.C18.hln_bounded
#print axioms SF.C18.cog_bounded
#print axioms SF.C18.net_bounded
#print axioms SF.C18.myrsi_bounded
#print axioms SF.C18.roc_bounded
#print axioms SF.C18.laguerreRsi_bounded
#print axioms SF.C18.laguerre_bounded
#print axioms SF.C18.cyberCycle_bounded
#print axioms SF.C18.trendFlex_bounded
#print axioms SF.C18.reFlex_bounded
#print axioms SF.C18.welford_bounded
#print axioms SF.C18.vst_bounded
#print axioms SF.C18.vsct_bounded
#print axioms SF.C18.entropy_bounded
#print axioms SF.C18.cti_bounded
#print axioms SF.C18.alma_bounded
#print axioms SF.C18.bufferless
#print axioms SF.C18.roofing_bufferless
#print axioms SF.C18.wrap_size
#print axioms SF.C18.binop_size
#print axioms SF.C18.mapV_size
#print axioms SF.C18.sma_sma_bounded
#print axioms SF.C18.fisher_bounded
#print axioms SF.C18.pfe_bounded
