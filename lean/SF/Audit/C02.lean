import SF.Props.C02
#print axioms SF.C02.sma_eq
#print axioms SF.C02.sma_spec_none
#print axioms SF.C02.cumulative_eq
#print axioms SF.C02.min_eq
#print axioms SF.C02.max_eq
#print axioms SF.C02.wmin_spec
#print axioms SF.C02.wmax_spec
#print axioms SF.C02.hln_eq
#print axioms SF.C02.roc_eq
#print axioms SF.C02.roc_spec_step
#print axioms SF.C02.entropy_eq
#print axioms SF.C02.welford_state
#print axioms SF.C02.welford_last_eq
#print axioms SF.C02.vst_eq
#print axioms SF.C02.vsct_eq
#print axioms SF.C02.ctor_reject
