import SF.Props.C05
#print axioms SF.C05.rsi_eq
#print axioms SF.C05.myrsi_eq
#print axioms SF.C05.rsi_of_guard
#print axioms SF.C05.rsi_neg
#print axioms SF.C05.myrsi_ratio_neg
#print axioms SF.C05.rsi_no_decline
#print axioms SF.C05.rsi_no_advance
#print axioms SF.C05.rsi_formula
