import SF.Props.C01
#print axioms SF.C01.wrap_trace
#print axioms SF.C01.wrap_trace_ok_inner
#print axioms SF.C01.wrap_run_fst
#print axioms SF.C01.mapV_run
#print axioms SF.C01.mapV_last_none
#print axioms SF.C01.mapV_last_some
#print axioms SF.C01.binop_run
#print axioms SF.C01.binop_last_none_left
#print axioms SF.C01.binop_last_none_right
#print axioms SF.C01.binop_last_some
#print axioms SF.C01.binop_last_isSome_iff
#print axioms SF.C01.denote_un
#print axioms SF.C01.denote_un2
#print axioms SF.C01.denote_bin
#print axioms SF.C01.denote_tanh
#print axioms SF.C01.C01_chain
