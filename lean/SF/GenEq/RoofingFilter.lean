import SF.Gen.RoofingFilter
import SF.Model.Ehlers
import SF.GenEq.Tactic
set_option linter.unusedSectionVars false
set_option linter.unusedVariables false
/-! Translator tie for `RoofingFilter` (src/sliding_windows/roofing_filter.rs): the view generated from the Rust text = the model's `wrap A (roofCoreU N Mss)`,
for every child view: same answers and same panics on every input.  (Table-driven: tools/mk_geneq.py.) -/
namespace SF.GenEq.RoofingFilter
open SF SF.Gen.RoofingFilter
variable {α : Type} [Add α] [Sub α] [Mul α] [Div α] [Neg α] [NatCast α]
  [LT α] [DecidableLT α] [LE α] [DecidableLE α] [BEq α] [FloatLike α] [Transc α]

def s0 (A : View α) (N : Nat) (Mss : Nat) : State α A.σ := { view := A.init, super_smoother := { view := none, window_len := Mss, i := 0, c1 := (ssCoef Mss).c1, c2 := (ssCoef Mss).c2, c3 := (ssCoef Mss).c3, filt := nat 0, filt_1 := nat 0, filt_2 := nat 0, last_val := nat 0 }, window_len := N, i := 0, alpha_1 := roofAlpha N, val_1 := nat 0, val_2 := nat 0, hp_1 := nat 0, hp_2 := nat 0 }
theorem new_ok (A : View α) (N : Nat) (Mss : Nat) (hN : 2 ≤ N) : new A N Mss = .ok (s0 A N Mss) := by
  simp [new, SF.Gen.SuperSmoother.new, s0, hN, bind, Except.bind, pure, Except.pure, echoV, roofAlpha, ssCoef, piC, piLit]

@[simp] def abs (A : View α) (s : State α A.σ) : A.σ × RoofState α := (s.view, { ss := { i := s.super_smoother.i, filt := s.super_smoother.filt, filt1 := s.super_smoother.filt_1, filt2 := s.super_smoother.filt_2, lastVal := s.super_smoother.last_val }, i := s.i, val1 := s.val_1, val2 := s.val_2, hp1 := s.hp_1, hp2 := s.hp_2 })

theorem upd_sim (A : View α)  (s : State α A.σ) (x : α)  (hd0 : s.alpha_1 = roofAlpha s.window_len) (hd1 : s.super_smoother.c1 = (ssCoef s.super_smoother.window_len).c1) (hd2 : s.super_smoother.c2 = (ssCoef s.super_smoother.window_len).c2) (hd3 : s.super_smoother.c3 = (ssCoef s.super_smoother.window_len).c3) :
    StepSim (abs A) (fun _ => True) (update A s x) ((wrap A (roofCoreU s.window_len s.super_smoother.window_len)).upd (abs A s) x) := by
  simp only [update, roofCoreU, ssStep, ssOut, ssInit, echoV, SF.Gen.SuperSmoother.update, abs]; gen_sim
theorem upd_eq (A : View α)  (s : State α A.σ) (x : α)  (hd0 : s.alpha_1 = roofAlpha s.window_len) (hd1 : s.super_smoother.c1 = (ssCoef s.super_smoother.window_len).c1) (hd2 : s.super_smoother.c2 = (ssCoef s.super_smoother.window_len).c2) (hd3 : s.super_smoother.c3 = (ssCoef s.super_smoother.window_len).c3) :
    (update A s x).map (abs A) = (wrap A (roofCoreU s.window_len s.super_smoother.window_len)).upd (abs A s) x :=
  (upd_sim A s x hd0 hd1 hd2 hd3).map_eq
/-- the generated update against itself: the immutable fields are kept, whatever they hold -/
theorem upd_self (A : View α) (s : State α A.σ) (x : α)  :
    StepSim id (fun s' => s'.window_len = s.window_len ∧ s'.super_smoother.window_len = s.super_smoother.window_len ∧ s'.alpha_1 = s.alpha_1 ∧ s'.super_smoother.c1 = s.super_smoother.c1 ∧ s'.super_smoother.c2 = s.super_smoother.c2 ∧ s'.super_smoother.c3 = s.super_smoother.c3) (update A s x) (update A s x) := by
  simp only [update, SF.Gen.SuperSmoother.update]; gen_sim
theorem upd_cfg (A : View α) (s s' : State α A.σ) (x : α)  : update A s x = .ok s' → s'.window_len = s.window_len ∧ s'.super_smoother.window_len = s.super_smoother.window_len ∧ s'.alpha_1 = s.alpha_1 ∧ s'.super_smoother.c1 = s.super_smoother.c1 ∧ s'.super_smoother.c2 = s.super_smoother.c2 ∧ s'.super_smoother.c3 = s.super_smoother.c3 :=
  (upd_self A s x ).post
theorem last_eq (A : View α)  (s : State α A.σ)  (hd0 : s.alpha_1 = roofAlpha s.window_len) (hd1 : s.super_smoother.c1 = (ssCoef s.super_smoother.window_len).c1) (hd2 : s.super_smoother.c2 = (ssCoef s.super_smoother.window_len).c2) (hd3 : s.super_smoother.c3 = (ssCoef s.super_smoother.window_len).c3) : last A s = (wrap A (roofCoreU s.window_len s.super_smoother.window_len)).last (abs A s) := by
  simp only [last, roofCoreU, ssStep, ssOut, ssInit, echoV, SF.Gen.SuperSmoother.last, abs]; gen_tie

def sim (A : View α) (N : Nat) (Mss : Nat)  : Sim (mkView (s0 A N Mss) (update A) (last A)) (wrap A (roofCoreU N Mss)) where
  Cfg s := s.window_len = N ∧ s.super_smoother.window_len = Mss ∧ s.alpha_1 = roofAlpha s.window_len ∧ s.super_smoother.c1 = (ssCoef s.super_smoother.window_len).c1 ∧ s.super_smoother.c2 = (ssCoef s.super_smoother.window_len).c2 ∧ s.super_smoother.c3 = (ssCoef s.super_smoother.window_len).c3
  abs := abs A
  init_cfg := ⟨rfl, rfl, rfl, rfl, rfl, rfl⟩
  init_abs := rfl
  upd s x h := h.1 ▸ h.2.1 ▸ upd_eq A s x   h.2.2.1 h.2.2.2.1 h.2.2.2.2.1 h.2.2.2.2.2
  upd_cfg s x s' h e := by
    obtain ⟨e0, e1, e2, e3, e4, e5⟩ := upd_cfg A s s' x  e
    rw [e0, e1, e2, e3, e4, e5]; exact h
  last s h := h.1 ▸ h.2.1 ▸ last_eq A s   h.2.2.1 h.2.2.2.1 h.2.2.2.2.1 h.2.2.2.2.2

/-- the Rust text of `RoofingFilter`, as translated, and the model agree on every input: same answers, same panics -/
theorem tie (A : View α) (N : Nat) (Mss : Nat)  (xs : List α) :
    (mkView (s0 A N Mss) (update A) (last A)).trace (s0 A N Mss) xs = (wrap A (roofCoreU N Mss)).trace (wrap A (roofCoreU N Mss)).init xs :=
  (sim A N Mss ).trace_eq xs
end SF.GenEq.RoofingFilter
