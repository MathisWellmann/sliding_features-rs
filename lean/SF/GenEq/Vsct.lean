import SF.Gen.Vsct
import SF.Model.Window
import SF.GenEq.WelfordOnline
import SF.GenEq.Tactic
set_option linter.unusedSectionVars false
set_option linter.unusedVariables false
/-! Translator tie for `Vsct` (src/sliding_windows/vsct.rs): the view generated from the Rust text = the model's `wrap A (vsctCoreU N)`,
for every child view: same answers and same panics on every input.  (Table-driven: tools/mk_geneq.py.) -/
namespace SF.GenEq.Vsct
open SF SF.Gen.Vsct
variable {α : Type} [Add α] [Sub α] [Mul α] [Div α] [Neg α] [NatCast α]
  [LT α] [DecidableLT α] [LE α] [DecidableLE α] [BEq α] [FloatLike α] [Transc α]

def s0 (A : View α) (N : Nat) : State α A.σ := { view := A.init, last := nat 0, welford_online := { view := none, window_len := N, q_vals := [], mean := nat 0, m2 := nat 0, count := 0 } }
theorem new_ok (A : View α) (N : Nat) (hN : 0 < N) : new A N = .ok (s0 A N) := by
  simp [new, SF.Gen.WelfordOnline.new, s0, hN, bind, Except.bind, pure, Except.pure, echoV]

@[simp] def abs (A : View α) (s : State α A.σ) : A.σ × VstState α := (s.view, { last := s.last, wo := { q := s.welford_online.q_vals, mean := s.welford_online.mean, m2 := s.welford_online.m2, count := s.welford_online.count } })

theorem upd_sim (A : View α)  (s : State α A.σ) (x : α)  :
    StepSim (abs A) (fun s' => s'.welford_online.window_len = s.welford_online.window_len) (update A s x) ((wrap A (vsctCoreU s.welford_online.window_len)).upd (abs A s) x) := by
  -- the embedded WelfordOnline runs its own head over Echo, which the model's core does not have: unfolded and split with the rest
  simp only [StepSim, update, vsctCoreU, welfordStep, welfordOut, welfordInit, WelfordState.add, WelfordState.remove, WelfordState.variance, echoV, SF.Gen.WelfordOnline.update, SF.Gen.WelfordOnline.update_stats_add, SF.Gen.WelfordOnline.update_stats_remove, abs]; gen_tie
theorem upd_eq (A : View α)  (s : State α A.σ) (x : α) (htot : ∀ a b : α, ¬ a ≤ b → b ≤ a) (hrefl : ∀ a : α, a ≤ a)  :
    (update A s x).map (abs A) = (wrap A (vsctCoreU s.welford_online.window_len)).upd (abs A s) x :=
  (upd_sim A s x ).map_eq
theorem upd_cfg (A : View α) (s s' : State α A.σ) (x : α)  : update A s x = .ok s' → s'.welford_online.window_len = s.welford_online.window_len :=
  (upd_sim A s x ).post
theorem last_eq (A : View α)  (s : State α A.σ) (htot : ∀ a b : α, ¬ a ≤ b → b ≤ a) (hrefl : ∀ a : α, a ≤ a)  : last A s = (wrap A (vsctCoreU s.welford_online.window_len)).last (abs A s) := by
  simp only [last, vsctCoreU, abs]
  rw [SF.GenEq.WelfordOnline.last_eq echoV s.welford_online htot hrefl]
  simp only [welfordCoreU, SF.GenEq.WelfordOnline.abs]; gen_tie

def sim (A : View α) (N : Nat) (htot : ∀ a b : α, ¬ a ≤ b → b ≤ a) (hrefl : ∀ a : α, a ≤ a) : Sim (mkView (s0 A N) (update A) (last A)) (wrap A (vsctCoreU N)) where
  Cfg s := s.welford_online.window_len = N
  abs := abs A
  init_cfg := rfl
  init_abs := rfl
  upd s x h := h ▸ upd_eq A s x htot hrefl
  upd_cfg s x s' h e := (upd_cfg A s s' x  e).trans h
  last s h := h ▸ last_eq A s htot hrefl

/-- the Rust text of `Vsct`, as translated, and the model agree on every input: same answers, same panics -/
theorem tie (A : View α) (N : Nat) (htot : ∀ a b : α, ¬ a ≤ b → b ≤ a) (hrefl : ∀ a : α, a ≤ a) (xs : List α) :
    (mkView (s0 A N) (update A) (last A)).trace (s0 A N) xs = (wrap A (vsctCoreU N)).trace (wrap A (vsctCoreU N)).init xs :=
  (sim A N htot hrefl).trace_eq xs
end SF.GenEq.Vsct
