import SF.Props.C02
import SF.Props.C04
import SF.Props.C05
import SF.Props.C11
import SF.GenEq.Sma
import SF.GenEq.Cumulative
import SF.GenEq.Min
import SF.GenEq.Max
import SF.GenEq.Roc
import SF.GenEq.BinaryEntropy
import SF.GenEq.WelfordOnline
import SF.GenEq.Vst
import SF.GenEq.Vsct
import SF.GenEq.Ema
import SF.GenEq.Rsi
import SF.GenEq.MyRSI
import SF.GenEq.SuperSmoother
import SF.GenEq.RoofingFilter
import SF.GenEq.WelfordRolling
import SF.Props.C13
import SF.Props.C14
import SF.GenEq.Add
import SF.GenEq.Subtract
import SF.GenEq.Multiply
import SF.GenEq.Divide
import SF.GenEq.Tanh
/-
  End-to-end: the property theorems of SF/Props, which are about the hand-written model, transferred along the translator
  tie to the definitions GENERATED from the Rust text on this run.

  `Eft.Realises V spec` (SF/Lemmas/Realises.lean; the name is in the namespace of the view it was first needed for): fed any history, `V` does not panic and then reports `spec history`.
  Each theorem below says that the generated view -- the Rust text of the view, over the model's Echo, at a linearly ordered
  field ("real arithmetic") -- realises the batch definition the property names.  Ingredients: the characterisation
  theorem of the model core (`C02.sma_eq`, ...), `Eft.realises_overEcho`, and the simulation `SF.GenEq.<View>.sim`.
-/
namespace SF.GenEq
variable {α : Type}

/-- a generated view realises whatever batch function the model view it simulates realises -/
theorem Sim.realises {G W : View α} (h : Sim G W) (spec : List α → Option α) (hW : Eft.Realises W spec) :
    Eft.Realises G spec := by
  intro fed
  obtain ⟨m, hm, hl⟩ := hW fed
  obtain ⟨s, hs, hc, rfl⟩ := h.run_from fed G.init h.init_cfg m (by rw [h.init_abs]; exact hm)
  exact ⟨s, hs, by rw [h.last s hc, hl]⟩

section anyScalar
/-! C14 for the translated text, at ANY scalar type with the crate's operations -- in particular at `Float`, i.e. bit-exactly:
the generated `last()` of a combinator over children in states `s.a`, `s.b` reports the operation applied to the children's
current outputs, whatever happened before. -/
variable [Add α] [Sub α] [Mul α] [Div α] [Neg α] [NatCast α] [LT α] [DecidableLT α] [LE α] [DecidableLE α] [BEq α]
  [FloatLike α] [Transc α]

theorem add_rust (A B : View α) (s : SF.Gen.Add.State α A.σ B.σ) (x y : α) (ha : A.last s.a = .ok (some x))
    (hb : B.last s.b = .ok (some y)) (hx : FloatLike.isFinite x = true) (hy : FloatLike.isFinite y = true) :
    SF.Gen.Add.last A B s = .ok (some (x + y)) := by
  rw [Add.last_eq]; exact C14.add_last A B s.a s.b x y ha hb hx hy
theorem sub_rust (A B : View α) (s : SF.Gen.Subtract.State α A.σ B.σ) (x y : α) (ha : A.last s.a = .ok (some x))
    (hb : B.last s.b = .ok (some y)) (hx : FloatLike.isFinite x = true) (hy : FloatLike.isFinite y = true) :
    SF.Gen.Subtract.last A B s = .ok (some (x - y)) := by
  rw [Subtract.last_eq]; exact C14.sub_last A B s.a s.b x y ha hb hx hy
theorem mul_rust (A B : View α) (s : SF.Gen.Multiply.State α A.σ B.σ) (x y : α) (ha : A.last s.a = .ok (some x))
    (hb : B.last s.b = .ok (some y)) (hx : FloatLike.isFinite x = true) (hy : FloatLike.isFinite y = true) :
    SF.Gen.Multiply.last A B s = .ok (some (x * y)) := by
  rw [Multiply.last_eq]; exact C14.mul_last A B s.a s.b x y ha hb hx hy
theorem div_rust (A B : View α) (s : SF.Gen.Divide.State α A.σ B.σ) (x y : α) (ha : A.last s.a = .ok (some x))
    (hb : B.last s.b = .ok (some y)) (hx : FloatLike.isFinite x = true) (hy : FloatLike.isFinite y = true)
    (hy0 : (y == (nat 0 : α)) = false) :
    SF.Gen.Divide.last A B s = .ok (some (x / y)) := by
  rw [Divide.last_eq]; exact C14.div_last A B s.a s.b x y ha hb hx hy hy0
theorem tanh_rust (A : View α) (s : SF.Gen.Tanh.State α A.σ) (v : α) (h : A.last s.view = .ok (some v))
    (hv : FloatLike.isFinite v = true) : SF.Gen.Tanh.last A s = .ok (some (Transc.tanh v)) := by
  rw [Tanh.last_eq]; exact C14.tanh_last A s.view v h hv
end anyScalar

section field
variable [Field α] [LinearOrder α] [IsStrictOrderedRing α] [FloatLike α] [ExactScalar α] [Transc α]

/-- C02: the Rust text of `Sma` reports the arithmetic mean of exactly the last N values, from the N-th value on -/
theorem sma_rust (N : Nat) (hN : 0 < N) :
    Eft.Realises (mkView (Sma.s0 echoV N) (SF.Gen.Sma.update echoV) (SF.Gen.Sma.last echoV)) (Spec.sma (α := α) N) :=
  (Sma.sim echoV N).realises _ (Eft.realises_overEcho _ _ (C02.sma_eq N hN))

/-- C02: `Cumulative` = the sum of exactly the last N values -/
theorem cumulative_rust (N : Nat) (hN : 0 < N) :
    Eft.Realises (mkView (Cumulative.s0 echoV N) (SF.Gen.Cumulative.update echoV) (SF.Gen.Cumulative.last echoV)) (Spec.cumulative (α := α) N) :=
  (Cumulative.sim echoV N).realises _ (Eft.realises_overEcho _ _ (C02.cumulative_eq N hN))

/-- C02: `Min` / `Max` = the extrema of exactly the last N values -/
theorem min_rust (N : Nat) (hN : 0 < N) :
    Eft.Realises (mkView (Min.s0 echoV N) (SF.Gen.Min.update echoV) (SF.Gen.Min.last echoV)) (Spec.wmin (α := α) N) :=
  (Min.sim echoV N).realises _ (Eft.realises_overEcho _ _ (C02.min_eq N hN))
theorem max_rust (N : Nat) (hN : 0 < N) :
    Eft.Realises (mkView (Max.s0 echoV N) (SF.Gen.Max.update echoV) (SF.Gen.Max.last echoV)) (Spec.wmax (α := α) N) :=
  (Max.sim echoV N).realises _ (Eft.realises_overEcho _ _ (C02.max_eq N hN))

/-- C02: `Roc` = 100 (x_t − x_{t−N}) / x_{t−N} with the stated conventions -/
theorem roc_rust (N : Nat) (hN : 0 < N) :
    Eft.Realises (mkView (Roc.s0 echoV N) (SF.Gen.Roc.update echoV) (SF.Gen.Roc.last echoV)) (Spec.roc (α := α) N) :=
  (Roc.sim echoV N).realises _ (Eft.realises_overEcho _ _ (C02.roc_eq N hN))

/-- C02: `BinaryEntropy` = the Shannon entropy of the fraction of non-negative values among the last N -/
theorem entropy_rust (N : Nat) (hN : 0 < N) :
    Eft.Realises (mkView (BinaryEntropy.s0 echoV N) (SF.Gen.BinaryEntropy.update echoV) (SF.Gen.BinaryEntropy.last echoV)) (Spec.entropy (α := α) N) :=
  (BinaryEntropy.sim echoV N).realises _ (Eft.realises_overEcho _ _ (C02.entropy_eq N hN))

/-- C02: `WelfordOnline::last` = the sample standard deviation of exactly the last N values; `Vst`, `Vsct` accordingly -/
theorem welford_rust (N : Nat) (hN : 0 < N) :
    Eft.Realises (mkView (WelfordOnline.s0 echoV N) (SF.Gen.WelfordOnline.update echoV) (SF.Gen.WelfordOnline.last echoV)) (Spec.welford (α := α) N) :=
  (WelfordOnline.sim echoV N (fun _ _ => le_of_not_ge) le_refl).realises _ (Eft.realises_overEcho _ _ (C02.welford_last_eq N hN))
theorem vst_rust (N : Nat) (hN : 0 < N) :
    Eft.Realises (mkView (Vst.s0 echoV N) (SF.Gen.Vst.update echoV) (SF.Gen.Vst.last echoV)) (Spec.vst (α := α) N) :=
  (Vst.sim echoV N (fun _ _ => le_of_not_ge) le_refl).realises _ (Eft.realises_overEcho _ _ (C02.vst_eq N hN))
theorem vsct_rust (N : Nat) (hN : 0 < N) :
    Eft.Realises (mkView (Vsct.s0 echoV N) (SF.Gen.Vsct.update echoV) (SF.Gen.Vsct.last echoV)) (Spec.vsct (α := α) N) :=
  (Vsct.sim echoV N (fun _ _ => le_of_not_ge) le_refl).realises _ (Eft.realises_overEcho _ _ (C02.vsct_eq N hN))

/-- C05: the Rust text of `Rsi` / `MyRSI` = the statement's gains / losses formulas over the N most recent changes -/
theorem rsi_rust (N : Nat) (hN : 0 < N) :
    Eft.Realises (mkView (Rsi.s0 echoV N) (SF.Gen.Rsi.update echoV) (SF.Gen.Rsi.last echoV)) (Spec.rsi (α := α) N) :=
  (Rsi.sim echoV N).realises _ (Eft.realises_overEcho _ _ (C05.rsi_eq N hN))
theorem myrsi_rust (N : Nat) (hN : 0 < N) :
    Eft.Realises (mkView (MyRSI.s0 echoV N) (SF.Gen.MyRSI.update echoV) (SF.Gen.MyRSI.last echoV)) (Spec.myRsi (α := α) N) :=
  (MyRSI.sim echoV N).realises _ (Eft.realises_overEcho _ _ (C05.myrsi_eq N hN))

/-- C11: the Rust text of `SuperSmoother` = its difference equation with the stated coefficients -/
theorem superSmoother_rust (N : Nat) (hN : 0 < N) :
    Eft.Realises (mkView (SuperSmoother.s0 echoV N) (SF.Gen.SuperSmoother.update echoV) (SF.Gen.SuperSmoother.last echoV)) (Spec.superSmoother (α := α) N) :=
  (SuperSmoother.sim echoV N).realises _ (Eft.realises_overEcho _ _ (C11.superSmoother_eq N hN))

/-- C11: the Rust text of `RoofingFilter` = two-pole high-pass followed by the SuperSmoother, every N ≥ 2, every M ≥ 1 -/
theorem roofing_rust (N M' : Nat) (hM : 0 < M') :
    Eft.Realises (mkView (RoofingFilter.s0 echoV N M') (SF.Gen.RoofingFilter.update echoV) (SF.Gen.RoofingFilter.last echoV)) (Spec.roofing (α := α) N M') :=
  (RoofingFilter.sim echoV N M').realises _ (Eft.realises_overEcho _ _ (C11.roofing_eq N M' hM))

/-- C04: the Rust text of `Ema` follows e_0 = x_0, e_t = w x_t + (1 − w) e_{t−1}, w = alpha/(N+1), for every input -/
theorem ema_rust (N : Nat) (hN : 0 < N) (alpha : α) :
    Eft.Realises (mkView (Ema.s0 echoV N alpha) (SF.Gen.Ema.update echoV) (SF.Gen.Ema.last echoV)) (Spec.ema (α := α) N alpha) :=
  (Ema.sim echoV N alpha).realises _ (Eft.realises_overEcho _ _ (C04.ema_eq N hN alpha))

/-- C13: the Rust text of `WelfordRolling::last` = the population standard deviation of all values delivered so far -/
theorem welfordRolling_rust :
    Eft.Realises (mkView (WelfordRolling.s0 echoV) (SF.Gen.WelfordRolling.update echoV) (SF.Gen.WelfordRolling.last echoV)) (Spec.welfordRolling (α := α)) :=
  (WelfordRolling.sim echoV).realises _ (Eft.realises_overEcho _ _ C13.welfordRolling_last)

end field
end SF.GenEq
