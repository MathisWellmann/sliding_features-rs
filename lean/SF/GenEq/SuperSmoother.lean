import SF.Gen.SuperSmoother
import SF.Model.Ehlers
import SF.GenEq.Tactic
set_option linter.unusedSectionVars false
set_option linter.unusedVariables false
/-! Translator tie for `SuperSmoother` (src/sliding_windows/super_smoother.rs): the view generated from the Rust text = the model's `wrap A (ssCore N)`,
for every child view: same answers and same panics on every input.  (Table-driven: tools/mk_geneq.py.) -/
namespace SF.GenEq.SuperSmoother
open SF SF.Gen.SuperSmoother
variable {α : Type} [Add α] [Sub α] [Mul α] [Div α] [Neg α] [NatCast α]
  [LT α] [DecidableLT α] [LE α] [DecidableLE α] [BEq α] [FloatLike α] [Transc α]

def s0 (A : View α) (N : Nat) : State α A.σ := { view := A.init, window_len := N, i := 0, c1 := (ssCoef N).c1, c2 := (ssCoef N).c2, c3 := (ssCoef N).c3, filt := nat 0, filt_1 := nat 0, filt_2 := nat 0, last_val := nat 0 }
theorem new_ok (A : View α) (N : Nat)  : new A N = .ok (s0 A N) := by
  rfl

@[simp] def abs (A : View α) (s : State α A.σ) : A.σ × SsState α := (s.view, { i := s.i, filt := s.filt, filt1 := s.filt_1, filt2 := s.filt_2, lastVal := s.last_val })

theorem upd_sim (A : View α)  (s : State α A.σ) (x : α)  (hd0 : s.c1 = (ssCoef s.window_len).c1) (hd1 : s.c2 = (ssCoef s.window_len).c2) (hd2 : s.c3 = (ssCoef s.window_len).c3) :
    StepSim (abs A) (fun _ => True) (update A s x) ((wrap A (ssCore s.window_len)).upd (abs A s) x) := by
  simp only [update, ssCore, ssStep, ssInit, abs]; gen_sim
theorem upd_eq (A : View α)  (s : State α A.σ) (x : α)  (hd0 : s.c1 = (ssCoef s.window_len).c1) (hd1 : s.c2 = (ssCoef s.window_len).c2) (hd2 : s.c3 = (ssCoef s.window_len).c3) :
    (update A s x).map (abs A) = (wrap A (ssCore s.window_len)).upd (abs A s) x :=
  (upd_sim A s x hd0 hd1 hd2).map_eq
/-- the generated update against itself: the immutable fields are kept, whatever they hold -/
theorem upd_self (A : View α) (s : State α A.σ) (x : α)  :
    StepSim id (fun s' => s'.window_len = s.window_len ∧ s'.c1 = s.c1 ∧ s'.c2 = s.c2 ∧ s'.c3 = s.c3) (update A s x) (update A s x) := by
  simp only [update]; gen_sim
theorem upd_cfg (A : View α) (s s' : State α A.σ) (x : α)  : update A s x = .ok s' → s'.window_len = s.window_len ∧ s'.c1 = s.c1 ∧ s'.c2 = s.c2 ∧ s'.c3 = s.c3 :=
  (upd_self A s x ).post
theorem last_eq (A : View α)  (s : State α A.σ)  (hd0 : s.c1 = (ssCoef s.window_len).c1) (hd1 : s.c2 = (ssCoef s.window_len).c2) (hd2 : s.c3 = (ssCoef s.window_len).c3) : last A s = (wrap A (ssCore s.window_len)).last (abs A s) := by
  simp only [last, ssCore, ssOut, ssInit, abs]; gen_tie

def sim (A : View α) (N : Nat)  : Sim (mkView (s0 A N) (update A) (last A)) (wrap A (ssCore N)) where
  Cfg s := s.window_len = N ∧ s.c1 = (ssCoef s.window_len).c1 ∧ s.c2 = (ssCoef s.window_len).c2 ∧ s.c3 = (ssCoef s.window_len).c3
  abs := abs A
  init_cfg := ⟨rfl, rfl, rfl, rfl⟩
  init_abs := rfl
  upd s x h := h.1 ▸ upd_eq A s x   h.2.1 h.2.2.1 h.2.2.2
  upd_cfg s x s' h e := by
    obtain ⟨e0, e1, e2, e3⟩ := upd_cfg A s s' x  e
    rw [e0, e1, e2, e3]; exact h
  last s h := h.1 ▸ last_eq A s   h.2.1 h.2.2.1 h.2.2.2

/-- the Rust text of `SuperSmoother`, as translated, and the model agree on every input: same answers, same panics -/
theorem tie (A : View α) (N : Nat)  (xs : List α) :
    (mkView (s0 A N) (update A) (last A)).trace (s0 A N) xs = (wrap A (ssCore N)).trace (wrap A (ssCore N)).init xs :=
  (sim A N ).trace_eq xs
end SF.GenEq.SuperSmoother
