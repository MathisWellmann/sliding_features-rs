import SF.Lemmas.Generic
/-
  The translator tie, generic part.  A generated view `G` (state `σG`, built by `tools/rs2lean.py` from the Rust text) and
  the model's view `W` are related by an abstraction function `abs : σG → W.σ` that holds on the states satisfying a
  configuration predicate `Cfg` (the immutable parameters kept in the Rust struct equal the model's parameters):
  then both produce the same trace -- the same answers and the same panics -- on every input list.
-/
namespace SF.GenEq
variable {α : Type}

/-- a view packaged from generated `update` / `last` functions -/
@[reducible] def mkView {σ : Type} (init : σ) (upd : σ → α → M σ) (last : σ → M (Option α)) : View α :=
  { σ := σ, init := init, upd := upd, last := last, size := fun _ => 0 }

/-- the simulation a per-view file has to establish -/
structure Sim (G W : View α) where
  Cfg : G.σ → Prop
  abs : G.σ → W.σ
  init_cfg : Cfg G.init
  init_abs : abs G.init = W.init
  upd : ∀ s x, Cfg s → (G.upd s x).map abs = W.upd (abs s) x
  upd_cfg : ∀ s x s', Cfg s → G.upd s x = .ok s' → Cfg s'
  last : ∀ s, Cfg s → G.last s = W.last (abs s)

/-- what one `update` of a generated view has to do: where it panics the model panics alike, otherwise the model reaches the
abstraction of the new state, and that state satisfies `P` (its immutable parameters are unchanged).  Stated on the result
`g` of the generated `update`, so that one symbolic execution of it yields both `Sim.upd` and `Sim.upd_cfg`. -/
def StepSim {σ τ : Type} (abs : σ → τ) (P : σ → Prop) (g : M σ) (w : M τ) : Prop :=
  match g with
  | .ok s' => w = .ok (abs s') ∧ P s'
  | .error e => w = .error e

/-- the two programs run the same command first: it suffices to relate what follows, for every outcome of it -/
theorem StepSim.bind {σ τ β : Type} {abs : σ → τ} {P : σ → Prop} {x : M β} {k : β → M σ} {k' : β → M τ}
    (h : ∀ a, StepSim abs P (k a) (k' a)) : StepSim abs P (x >>= k) (x >>= k') := by
  cases x with
  | ok a => exact h a
  | error e => rfl

theorem StepSim.map_eq {σ τ : Type} {abs : σ → τ} {P : σ → Prop} {g : M σ} {w : M τ} (h : StepSim abs P g w) :
    g.map abs = w := by
  cases g with
  | ok s' => exact h.1.symm
  | error e => exact h.symm

theorem StepSim.post {σ τ : Type} {abs : σ → τ} {P : σ → Prop} {g : M σ} {w : M τ} (h : StepSim abs P g w) {s' : σ}
    (e : g = .ok s') : P s' := by
  subst e; exact h.2

theorem Sim.trace_from {G W : View α} (h : Sim G W) (xs : List α) :
    ∀ s, h.Cfg s → G.trace s xs = W.trace (h.abs s) xs := by
  induction xs with
  | nil => intro s _; rfl
  | cons x xs ih =>
    intro s hs
    rw [View.trace_cons, View.trace_cons, ← h.upd s x hs]
    cases hg : G.upd s x with
    | error e => rfl
    | ok s' =>
      have hc := h.upd_cfg s x s' hs hg
      simp only [Except.map, ok_bind, h.last s' hc, ih s' hc]

/-- same answers, same panics, on every input -/
theorem Sim.trace_eq {G W : View α} (h : Sim G W) (xs : List α) : G.trace G.init xs = W.trace W.init xs := by
  rw [h.trace_from xs G.init h.init_cfg, h.init_abs]

theorem Sim.run_from {G W : View α} (h : Sim G W) (xs : List α) :
    ∀ s, h.Cfg s → ∀ m, W.run (h.abs s) xs = .ok m → ∃ s', G.run s xs = .ok s' ∧ h.Cfg s' ∧ h.abs s' = m := by
  induction xs with
  | nil => intro s hs m hm; cases hm; exact ⟨s, rfl, hs, rfl⟩
  | cons x xs ih =>
    intro s hs m hm
    obtain ⟨w1, hw, hm⟩ := bind_eq_ok.mp hm
    rw [← h.upd s x hs] at hw
    cases hg : G.upd s x with
    | error e => rw [hg] at hw; cases hw
    | ok s1 =>
      rw [hg] at hw
      cases hw
      obtain ⟨s', hr, hc, ha⟩ := ih s1 (h.upd_cfg s x s1 hs hg) m hm
      exact ⟨s', bind_eq_ok.mpr ⟨s1, hg, hr⟩, hc, ha⟩

end SF.GenEq
