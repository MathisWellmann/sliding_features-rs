import SF.Gen.LnReturn
import SF.Model.Pure
import SF.GenEq.Tactic
set_option linter.unusedSectionVars false
set_option linter.unusedVariables false
/-! Translator tie for `LnReturn` (src/rolling/ln_return.rs): the view generated from the Rust text = the model's `wrap A lnReturnCore`,
for every child view: same answers and same panics on every input.  (Table-driven: tools/mk_geneq.py.) -/
namespace SF.GenEq.LnReturn
open SF SF.Gen.LnReturn
variable {α : Type} [Add α] [Sub α] [Mul α] [Div α] [Neg α] [NatCast α]
  [LT α] [DecidableLT α] [LE α] [DecidableLE α] [BEq α] [FloatLike α] [Transc α]

def s0 (A : View α)  : State α A.σ := { view := A.init, last_val := nat 0, current_val := nat 0 }
theorem new_ok (A : View α)   : new A  = .ok (s0 A ) := by
  rfl

@[simp] def abs (A : View α) (s : State α A.σ) : A.σ × LnReturnState α := (s.view, { lastVal := s.last_val, currentVal := s.current_val })

theorem upd_eq (A : View α)  (s : State α A.σ) (x : α)   :
    (update A s x).map (abs A) = (wrap A lnReturnCore).upd (abs A s) x := by
  simp only [update, lnReturnCore, abs]; gen_tie
theorem upd_cfg (A : View α) (s s' : State α A.σ) (x : α)  : update A s x = .ok s' → True :=
  fun _ => trivial
theorem last_eq (A : View α)  (s : State α A.σ)   : last A s = (wrap A lnReturnCore).last (abs A s) := by
  simp only [last, lnReturnCore, abs]; gen_tie

def sim (A : View α)   : Sim (mkView (s0 A ) (update A) (last A)) (wrap A lnReturnCore) where
  Cfg s := True
  abs := abs A
  init_cfg := trivial
  init_abs := rfl
  upd s x h := upd_eq A s x
  upd_cfg _ _ _ _ _ := trivial
  last s h := last_eq A s

/-- the Rust text of `LnReturn`, as translated, and the model agree on every input: same answers, same panics -/
theorem tie (A : View α)   (xs : List α) :
    (mkView (s0 A ) (update A) (last A)).trace (s0 A ) xs = (wrap A lnReturnCore).trace (wrap A lnReturnCore).init xs :=
  (sim A  ).trace_eq xs
end SF.GenEq.LnReturn
