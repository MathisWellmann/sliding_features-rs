import SF.Gen.LTE
import SF.Model.Pure
import SF.GenEq.Tactic
set_option linter.unusedSectionVars false
set_option linter.unusedVariables false
/-! Translator tie for `LTE` (src/pure_functions/lte.rs): the view generated from the Rust text = the model's `wrap A (lteCore c)`,
for every child view: same answers and same panics on every input.  (Table-driven: tools/mk_geneq.py.) -/
namespace SF.GenEq.LTE
open SF SF.Gen.LTE
variable {α : Type} [Add α] [Sub α] [Mul α] [Div α] [Neg α] [NatCast α]
  [LT α] [DecidableLT α] [LE α] [DecidableLE α] [BEq α] [FloatLike α] [Transc α]

def s0 (A : View α) (c : α) : State α A.σ := { view := A.init, clipping_value := c, out := none }
theorem new_ok (A : View α) (c : α) (hc : FloatLike.isFinite c = true) : new A c = .ok (s0 A c) := by
  simp [new, assertFinite, hc, s0, bind, Except.bind, pure, Except.pure]

@[simp] def abs (A : View α) (s : State α A.σ) : A.σ × Option α := (s.view, s.out)

theorem upd_sim (A : View α)  (s : State α A.σ) (x : α)  :
    StepSim (abs A) (fun s' => s'.clipping_value = s.clipping_value) (update A s x) ((wrap A (lteCore s.clipping_value)).upd (abs A s) x) := by
  simp only [update, lteCore, abs]; gen_sim
theorem upd_eq (A : View α)  (s : State α A.σ) (x : α)   :
    (update A s x).map (abs A) = (wrap A (lteCore s.clipping_value)).upd (abs A s) x :=
  (upd_sim A s x ).map_eq
theorem upd_cfg (A : View α) (s s' : State α A.σ) (x : α)  : update A s x = .ok s' → s'.clipping_value = s.clipping_value :=
  (upd_sim A s x ).post
theorem last_eq (A : View α)  (s : State α A.σ)   : last A s = (wrap A (lteCore s.clipping_value)).last (abs A s) := by
  simp only [last, lteCore, abs]; gen_tie

def sim (A : View α) (c : α)  : Sim (mkView (s0 A c) (update A) (last A)) (wrap A (lteCore c)) where
  Cfg s := s.clipping_value = c
  abs := abs A
  init_cfg := rfl
  init_abs := rfl
  upd s x h := h ▸ upd_eq A s x
  upd_cfg s x s' h e := (upd_cfg A s s' x  e).trans h
  last s h := h ▸ last_eq A s

/-- the Rust text of `LTE`, as translated, and the model agree on every input: same answers, same panics -/
theorem tie (A : View α) (c : α)  (xs : List α) :
    (mkView (s0 A c) (update A) (last A)).trace (s0 A c) xs = (wrap A (lteCore c)).trace (wrap A (lteCore c)).init xs :=
  (sim A c ).trace_eq xs
end SF.GenEq.LTE
