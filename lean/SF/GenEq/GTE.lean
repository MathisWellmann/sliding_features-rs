import SF.Gen.GTE
import SF.Model.Pure
import SF.GenEq.Tactic
set_option linter.unusedSectionVars false
set_option linter.unusedVariables false
/-! Translator tie for `GTE` (src/pure_functions/gte.rs): the view generated from the Rust text = the model's `wrap A (gteCore c)`,
for every child view: same answers and same panics on every input.  (Table-driven: tools/mk_geneq.py.) -/
namespace SF.GenEq.GTE
open SF SF.Gen.GTE
variable {α : Type} [Add α] [Sub α] [Mul α] [Div α] [Neg α] [NatCast α]
  [LT α] [DecidableLT α] [LE α] [DecidableLE α] [BEq α] [FloatLike α] [Transc α]

def s0 (A : View α) (c : α) : State α A.σ := { view := A.init, clipping_point := c, out := none }
theorem new_ok (A : View α) (c : α) (hc : FloatLike.isFinite c = true) : new A c = .ok (s0 A c) := by
  simp [new, assertFinite, hc, s0, bind, Except.bind, pure, Except.pure]

@[simp] def abs (A : View α) (s : State α A.σ) : A.σ × Option α := (s.view, s.out)

theorem upd_sim (A : View α)  (s : State α A.σ) (x : α)  :
    StepSim (abs A) (fun s' => s'.clipping_point = s.clipping_point) (update A s x) ((wrap A (gteCore s.clipping_point)).upd (abs A s) x) := by
  simp only [update, gteCore, abs]; gen_sim
theorem upd_eq (A : View α)  (s : State α A.σ) (x : α)   :
    (update A s x).map (abs A) = (wrap A (gteCore s.clipping_point)).upd (abs A s) x :=
  (upd_sim A s x ).map_eq
theorem upd_cfg (A : View α) (s s' : State α A.σ) (x : α)  : update A s x = .ok s' → s'.clipping_point = s.clipping_point :=
  (upd_sim A s x ).post
theorem last_eq (A : View α)  (s : State α A.σ)   : last A s = (wrap A (gteCore s.clipping_point)).last (abs A s) := by
  simp only [last, gteCore, abs]; gen_tie

def sim (A : View α) (c : α)  : Sim (mkView (s0 A c) (update A) (last A)) (wrap A (gteCore c)) where
  Cfg s := s.clipping_point = c
  abs := abs A
  init_cfg := rfl
  init_abs := rfl
  upd s x h := h ▸ upd_eq A s x
  upd_cfg s x s' h e := (upd_cfg A s s' x  e).trans h
  last s h := h ▸ last_eq A s

/-- the Rust text of `GTE`, as translated, and the model agree on every input: same answers, same panics -/
theorem tie (A : View α) (c : α)  (xs : List α) :
    (mkView (s0 A c) (update A) (last A)).trace (s0 A c) xs = (wrap A (gteCore c)).trace (wrap A (gteCore c)).init xs :=
  (sim A c ).trace_eq xs
end SF.GenEq.GTE
