import SF.Gen.BinaryEntropy
import SF.Model.Window
import SF.GenEq.Tactic
set_option linter.unusedSectionVars false
set_option linter.unusedVariables false
/-! Translator tie for `BinaryEntropy` (src/sliding_windows/binary_entropy.rs): the view generated from the Rust text = the model's `wrap A (bentCore N)`,
for every child view: same answers and same panics on every input.  (Table-driven: tools/mk_geneq.py.) -/
namespace SF.GenEq.BinaryEntropy
open SF SF.Gen.BinaryEntropy
variable {α : Type} [Add α] [Sub α] [Mul α] [Div α] [Neg α] [NatCast α]
  [LT α] [DecidableLT α] [LE α] [DecidableLE α] [BEq α] [FloatLike α] [Transc α]

def s0 (A : View α) (N : Nat) : State α A.σ := { view := A.init, window_len := N, q_vals := [], p := 0 }
theorem new_ok (A : View α) (N : Nat)  : new A N = .ok (s0 A N) := by
  rfl

@[simp] def abs (A : View α) (s : State α A.σ) : A.σ × BentState α := (s.view, { q := s.q_vals, p := s.p })

theorem upd_sim (A : View α)  (s : State α A.σ) (x : α)  :
    StepSim (abs A) (fun s' => s'.window_len = s.window_len) (update A s x) ((wrap A (bentCore s.window_len)).upd (abs A s) x) := by
  simp only [update, bentCore, abs]; gen_sim
theorem upd_eq (A : View α)  (s : State α A.σ) (x : α)   :
    (update A s x).map (abs A) = (wrap A (bentCore s.window_len)).upd (abs A s) x :=
  (upd_sim A s x ).map_eq
theorem upd_cfg (A : View α) (s s' : State α A.σ) (x : α)  : update A s x = .ok s' → s'.window_len = s.window_len :=
  (upd_sim A s x ).post
theorem last_eq (A : View α)  (s : State α A.σ)   : last A s = (wrap A (bentCore s.window_len)).last (abs A s) := by
  simp only [last, bentCore, abs]; gen_tie

def sim (A : View α) (N : Nat)  : Sim (mkView (s0 A N) (update A) (last A)) (wrap A (bentCore N)) where
  Cfg s := s.window_len = N
  abs := abs A
  init_cfg := rfl
  init_abs := rfl
  upd s x h := h ▸ upd_eq A s x
  upd_cfg s x s' h e := (upd_cfg A s s' x  e).trans h
  last s h := h ▸ last_eq A s

/-- the Rust text of `BinaryEntropy`, as translated, and the model agree on every input: same answers, same panics -/
theorem tie (A : View α) (N : Nat)  (xs : List α) :
    (mkView (s0 A N) (update A) (last A)).trace (s0 A N) xs = (wrap A (bentCore N)).trace (wrap A (bentCore N)).init xs :=
  (sim A N ).trace_eq xs
end SF.GenEq.BinaryEntropy
