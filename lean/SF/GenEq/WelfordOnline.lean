import SF.Gen.WelfordOnline
import SF.Model.Window
import SF.GenEq.Tactic
set_option linter.unusedSectionVars false
set_option linter.unusedVariables false
/-! Translator tie for `WelfordOnline` (src/sliding_windows/welford_online.rs): the view generated from the Rust text = the model's `wrap A (welfordCoreU N)`,
for every child view: same answers and same panics on every input.  (Table-driven: tools/mk_geneq.py.) -/
namespace SF.GenEq.WelfordOnline
open SF SF.Gen.WelfordOnline
variable {α : Type} [Add α] [Sub α] [Mul α] [Div α] [Neg α] [NatCast α]
  [LT α] [DecidableLT α] [LE α] [DecidableLE α] [BEq α] [FloatLike α] [Transc α]

def s0 (A : View α) (N : Nat) : State α A.σ := { view := A.init, window_len := N, q_vals := [], mean := nat 0, m2 := nat 0, count := 0 }
theorem new_ok (A : View α) (N : Nat) (hN : 0 < N) : new A N = .ok (s0 A N) := by
  simp [new, s0, hN, pure, Except.pure]

@[simp] def abs (A : View α) (s : State α A.σ) : A.σ × WelfordState α := (s.view, { q := s.q_vals, mean := s.mean, m2 := s.m2, count := s.count })

theorem upd_sim (A : View α)  (s : State α A.σ) (x : α)  :
    StepSim (abs A) (fun s' => s'.window_len = s.window_len) (update A s x) ((wrap A (welfordCoreU s.window_len)).upd (abs A s) x) := by
  simp only [update, welfordCoreU, welfordStep, welfordInit, WelfordState.add, WelfordState.remove, update_stats_add, update_stats_remove, abs]; gen_sim
theorem upd_eq (A : View α)  (s : State α A.σ) (x : α) (htot : ∀ a b : α, ¬ a ≤ b → b ≤ a) (hrefl : ∀ a : α, a ≤ a)  :
    (update A s x).map (abs A) = (wrap A (welfordCoreU s.window_len)).upd (abs A s) x :=
  (upd_sim A s x ).map_eq
theorem upd_cfg (A : View α) (s s' : State α A.σ) (x : α)  : update A s x = .ok s' → s'.window_len = s.window_len :=
  (upd_sim A s x ).post
theorem last_eq (A : View α)  (s : State α A.σ) (htot : ∀ a b : α, ¬ a ≤ b → b ≤ a) (hrefl : ∀ a : α, a ≤ a)  : last A s = (wrap A (welfordCoreU s.window_len)).last (abs A s) := by
  simp only [last, welfordCoreU, welfordOut, welfordInit, WelfordState.variance, variance, abs]; gen_tie

def sim (A : View α) (N : Nat) (htot : ∀ a b : α, ¬ a ≤ b → b ≤ a) (hrefl : ∀ a : α, a ≤ a) : Sim (mkView (s0 A N) (update A) (last A)) (wrap A (welfordCoreU N)) where
  Cfg s := s.window_len = N
  abs := abs A
  init_cfg := rfl
  init_abs := rfl
  upd s x h := h ▸ upd_eq A s x htot hrefl
  upd_cfg s x s' h e := (upd_cfg A s s' x  e).trans h
  last s h := h ▸ last_eq A s htot hrefl

/-- the Rust text of `WelfordOnline`, as translated, and the model agree on every input: same answers, same panics -/
theorem tie (A : View α) (N : Nat) (htot : ∀ a b : α, ¬ a ≤ b → b ≤ a) (hrefl : ∀ a : α, a ≤ a) (xs : List α) :
    (mkView (s0 A N) (update A) (last A)).trace (s0 A N) xs = (wrap A (welfordCoreU N)).trace (wrap A (welfordCoreU N)).init xs :=
  (sim A N htot hrefl).trace_eq xs
end SF.GenEq.WelfordOnline
