import SF.Gen.Drawdown
import SF.Model.Pure
import SF.GenEq.Tactic
set_option linter.unusedSectionVars false
set_option linter.unusedVariables false
/-! Translator tie for `Drawdown` (src/rolling/drawdown.rs): the view generated from the Rust text = the model's `wrap A drawdownCore`,
for every child view: same answers and same panics on every input.  (Table-driven: tools/mk_geneq.py.) -/
namespace SF.GenEq.Drawdown
open SF SF.Gen.Drawdown
variable {α : Type} [Add α] [Sub α] [Mul α] [Div α] [Neg α] [NatCast α]
  [LT α] [DecidableLT α] [LE α] [DecidableLE α] [BEq α] [FloatLike α] [Transc α]

def s0 (A : View α)  : State α A.σ := { view := A.init, max_drawdown := nat 0, peak := FloatLike.minValue, min_after_peak := FloatLike.maxValue }
theorem new_ok (A : View α)   : new A  = .ok (s0 A ) := by
  rfl

@[simp] def abs (A : View α) (s : State α A.σ) : A.σ × DrawdownState α := (s.view, { maxDD := s.max_drawdown, peak := s.peak, minAfterPeak := s.min_after_peak })

theorem upd_eq (A : View α)  (s : State α A.σ) (x : α)   :
    (update A s x).map (abs A) = (wrap A drawdownCore).upd (abs A s) x := by
  simp only [update, drawdownCore, abs]; gen_tie
theorem upd_cfg (A : View α) (s s' : State α A.σ) (x : α)  : update A s x = .ok s' → True :=
  fun _ => trivial
theorem last_eq (A : View α)  (s : State α A.σ)   : last A s = (wrap A drawdownCore).last (abs A s) := by
  simp only [last, drawdownCore, abs]; gen_tie

def sim (A : View α)   : Sim (mkView (s0 A ) (update A) (last A)) (wrap A drawdownCore) where
  Cfg s := True
  abs := abs A
  init_cfg := trivial
  init_abs := rfl
  upd s x h := upd_eq A s x
  upd_cfg _ _ _ _ _ := trivial
  last s h := last_eq A s

/-- the Rust text of `Drawdown`, as translated, and the model agree on every input: same answers, same panics -/
theorem tie (A : View α)   (xs : List α) :
    (mkView (s0 A ) (update A) (last A)).trace (s0 A ) xs = (wrap A drawdownCore).trace (wrap A drawdownCore).init xs :=
  (sim A  ).trace_eq xs
end SF.GenEq.Drawdown
