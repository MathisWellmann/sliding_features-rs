import SF.Gen.Alma
import SF.Model.Window
import SF.GenEq.Tactic
set_option linter.unusedSectionVars false
set_option linter.unusedVariables false
/-! Translator tie for `Alma` (src/sliding_windows/alma.rs): the view generated from the Rust text = the model's `wrap A (almaCore N sigma offset)`,
for every child view: same answers and same panics on every input.  (Table-driven: tools/mk_geneq.py.) -/
namespace SF.GenEq.Alma
open SF SF.Gen.Alma
variable {α : Type} [Add α] [Sub α] [Mul α] [Div α] [Neg α] [NatCast α]
  [LT α] [DecidableLT α] [LE α] [DecidableLE α] [BEq α] [FloatLike α] [Transc α]

def s0 (A : View α) (N : Nat) (sigma offset : α) : State α A.σ := { view := A.init, window_len := N, m := offset * (nat N + nat 1), s := nat N / sigma, wtd_sum := nat 0, cum_wt := nat 0, q_vals := [], q_wtd := [], q_out := [] }
theorem new_ok (A : View α) (N : Nat) (sigma offset : α) : new_custom A N sigma offset = .ok (s0 A N sigma offset) ∨ new_custom A N sigma offset = .error .assertFailed := by
  simp only [new_custom, s0]; munfold; split <;> simp

theorem new_default (A : View α) (N : Nat) (sigma offset : α) : new A N = new_custom A N (nat 6 : α) (dec 85 100 : α) := by
  rfl

@[simp] def abs (A : View α) (s : State α A.σ) : A.σ × AlmaState α := (s.view, { wtdSum := s.wtd_sum, cumWt := s.cum_wt, qVals := s.q_vals, qWtd := s.q_wtd, qOut := s.q_out })

theorem upd_sim (A : View α) {sigma offset : α} (s : State α A.σ) (x : α)  (hd0 : s.m = offset * (nat s.window_len + nat 1)) (hd1 : s.s = nat s.window_len / sigma) :
    StepSim (abs A) (fun _ => True) (update A s x) ((wrap A (almaCore s.window_len sigma offset)).upd (abs A s) x) := by
  simp only [update, almaCore, almaWeight, abs]; gen_sim
theorem upd_eq (A : View α) {sigma offset : α} (s : State α A.σ) (x : α)  (hd0 : s.m = offset * (nat s.window_len + nat 1)) (hd1 : s.s = nat s.window_len / sigma) :
    (update A s x).map (abs A) = (wrap A (almaCore s.window_len sigma offset)).upd (abs A s) x :=
  (upd_sim A s x hd0 hd1).map_eq
/-- the generated update against itself: the immutable fields are kept, whatever they hold -/
theorem upd_self (A : View α) (s : State α A.σ) (x : α)  :
    StepSim id (fun s' => s'.window_len = s.window_len ∧ s'.m = s.m ∧ s'.s = s.s) (update A s x) (update A s x) := by
  simp only [update]; gen_sim
theorem upd_cfg (A : View α) (s s' : State α A.σ) (x : α)  : update A s x = .ok s' → s'.window_len = s.window_len ∧ s'.m = s.m ∧ s'.s = s.s :=
  (upd_self A s x ).post
theorem last_eq (A : View α) {sigma offset : α} (s : State α A.σ)  (hd0 : s.m = offset * (nat s.window_len + nat 1)) (hd1 : s.s = nat s.window_len / sigma) : last A s = (wrap A (almaCore s.window_len sigma offset)).last (abs A s) := by
  simp only [last, almaCore, almaWeight, abs]; gen_tie

def sim (A : View α) (N : Nat) (sigma offset : α)  : Sim (mkView (s0 A N sigma offset) (update A) (last A)) (wrap A (almaCore N sigma offset)) where
  Cfg s := s.window_len = N ∧ s.m = offset * (nat s.window_len + nat 1) ∧ s.s = nat s.window_len / sigma
  abs := abs A
  init_cfg := ⟨rfl, rfl, rfl⟩
  init_abs := rfl
  upd s x h := h.1 ▸ upd_eq A s x   h.2.1 h.2.2
  upd_cfg s x s' h e := by
    obtain ⟨e0, e1, e2⟩ := upd_cfg A s s' x  e
    rw [e0, e1, e2]; exact h
  last s h := h.1 ▸ last_eq A s   h.2.1 h.2.2

/-- the Rust text of `Alma`, as translated, and the model agree on every input: same answers, same panics -/
theorem tie (A : View α) (N : Nat) (sigma offset : α)  (xs : List α) :
    (mkView (s0 A N sigma offset) (update A) (last A)).trace (s0 A N sigma offset) xs = (wrap A (almaCore N sigma offset)).trace (wrap A (almaCore N sigma offset)).init xs :=
  (sim A N sigma offset ).trace_eq xs
end SF.GenEq.Alma
