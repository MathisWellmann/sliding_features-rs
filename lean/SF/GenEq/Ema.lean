import SF.Gen.Ema
import SF.Model.Window
import SF.GenEq.Tactic
set_option linter.unusedSectionVars false
set_option linter.unusedVariables false
/-! Translator tie for `Ema` (src/sliding_windows/ema.rs): the view generated from the Rust text = the model's `wrap A (emaCore N al)`,
for every child view: same answers and same panics on every input.  (Table-driven: tools/mk_geneq.py.) -/
namespace SF.GenEq.Ema
open SF SF.Gen.Ema
variable {α : Type} [Add α] [Sub α] [Mul α] [Div α] [Neg α] [NatCast α]
  [LT α] [DecidableLT α] [LE α] [DecidableLE α] [BEq α] [FloatLike α] [Transc α]

def s0 (A : View α) (N : Nat) (al : α) : State α A.σ := { view := A.init, window_len := N, alpha := al, last_ema := nat 0, out := nat 0, n_observed_values := 0 }
theorem new_ok (A : View α) (N : Nat) (al : α)  : with_alpha A N al = .ok (s0 A N al) := by
  rfl

theorem new_default (A : View α) (N : Nat) (al : α) : new A N = with_alpha A N (nat 2 : α) := by
  rfl

@[simp] def abs (A : View α) (s : State α A.σ) : A.σ × EmaState α := (s.view, { lastEma := s.last_ema, out := s.out, n := s.n_observed_values })

theorem upd_sim (A : View α)  (s : State α A.σ) (x : α)  :
    StepSim (abs A) (fun s' => s'.window_len = s.window_len ∧ s'.alpha = s.alpha) (update A s x) ((wrap A (emaCore s.window_len s.alpha)).upd (abs A s) x) := by
  simp only [update, emaCore, abs]; gen_sim
theorem upd_eq (A : View α)  (s : State α A.σ) (x : α)   :
    (update A s x).map (abs A) = (wrap A (emaCore s.window_len s.alpha)).upd (abs A s) x :=
  (upd_sim A s x ).map_eq
theorem upd_cfg (A : View α) (s s' : State α A.σ) (x : α)  : update A s x = .ok s' → s'.window_len = s.window_len ∧ s'.alpha = s.alpha :=
  (upd_sim A s x ).post
theorem last_eq (A : View α)  (s : State α A.σ)   : last A s = (wrap A (emaCore s.window_len s.alpha)).last (abs A s) := by
  simp only [last, emaCore, abs]; gen_tie

def sim (A : View α) (N : Nat) (al : α)  : Sim (mkView (s0 A N al) (update A) (last A)) (wrap A (emaCore N al)) where
  Cfg s := s.window_len = N ∧ s.alpha = al
  abs := abs A
  init_cfg := ⟨rfl, rfl⟩
  init_abs := rfl
  upd s x h := h.1 ▸ h.2 ▸ upd_eq A s x
  upd_cfg s x s' h e := ⟨(upd_cfg A s s' x  e).1.trans h.1, (upd_cfg A s s' x  e).2.trans h.2⟩
  last s h := h.1 ▸ h.2 ▸ last_eq A s

/-- the Rust text of `Ema`, as translated, and the model agree on every input: same answers, same panics -/
theorem tie (A : View α) (N : Nat) (al : α)  (xs : List α) :
    (mkView (s0 A N al) (update A) (last A)).trace (s0 A N al) xs = (wrap A (emaCore N al)).trace (wrap A (emaCore N al)).init xs :=
  (sim A N al ).trace_eq xs
end SF.GenEq.Ema
