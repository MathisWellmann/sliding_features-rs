import SF.Gen.Constant
import SF.Model.Pure
import SF.GenEq.Tactic
set_option linter.unusedSectionVars false
set_option linter.unusedVariables false
/-! Translator tie for `Constant` (src/pure_functions/constant.rs): the view generated from the Rust text = the model's `constV c`,
for every child view: same answers and same panics on every input.  (Table-driven: tools/mk_geneq.py.) -/
namespace SF.GenEq.Constant
open SF SF.Gen.Constant
variable {α : Type} [Add α] [Sub α] [Mul α] [Div α] [Neg α] [NatCast α]
  [LT α] [DecidableLT α] [LE α] [DecidableLE α] [BEq α] [FloatLike α] [Transc α]

def s0  (c : α) : State α := { val := c }
theorem new_ok  (c : α)  : new  c = .ok (s0  c) := by
  rfl

@[simp] def abs  (s : State α) : Unit := ()

theorem upd_sim   (s : State α) (x : α)  :
    StepSim (abs ) (fun s' => s'.val = s.val) (update  s x) ((constV s.val).upd (abs  s) x) := by
  simp only [StepSim, update, abs]; gen_tie
theorem upd_eq   (s : State α) (x : α)   :
    (update  s x).map (abs ) = (constV s.val).upd (abs  s) x :=
  (upd_sim  s x ).map_eq
theorem upd_cfg  (s s' : State α) (x : α)  : update  s x = .ok s' → s'.val = s.val :=
  (upd_sim  s x ).post
theorem last_eq   (s : State α)   : last  s = (constV s.val).last (abs  s) := by
  rfl

def sim  (c : α)  : Sim (mkView (s0  c) (update ) (last )) (constV c) where
  Cfg s := s.val = c
  abs := abs
  init_cfg := rfl
  init_abs := rfl
  upd s x h := h ▸ upd_eq  s x
  upd_cfg s x s' h e := (upd_cfg  s s' x  e).trans h
  last s h := h ▸ last_eq  s

/-- the Rust text of `Constant`, as translated, and the model agree on every input: same answers, same panics -/
theorem tie  (c : α)  (xs : List α) :
    (mkView (s0  c) (update ) (last )).trace (s0  c) xs = (constV c).trace (constV c).init xs :=
  (sim  c ).trace_eq xs
end SF.GenEq.Constant
