import Lean
import SF.GenEq.Basic
/-
  Proof automation for the translator tie (`SF/GenEq/*.lean`): the generated definitions (`SF/Gen/*.lean`, produced by
  `tools/rs2lean.py` from `/repo/src/**/*.rs`) and the hand-written model are both `Except`-monad programs over the same
  atoms (child-view calls, assertions, deque operations).  `splitall` repeatedly finds an INNERMOST `match` / `if` of the
  goal (one whose scrutinee contains no further `match` / `if`) and case-splits its scrutinee.  Each decision is used as a
  rewrite rule on the whole goal, so both sides take it together: the leaves are the paths of the JOINT control flow (a few
  dozen), not the product of the two sides' paths.  For that the two sides must phrase a decision in the same words:
  `munfold` normalises `l.isEmpty` to `l = []` and `(!b) = true` to `b = false`, `mground` decides what has become closed.
  Commands that both programs run first are stepped over before anything is split (`lockstep`, by `StepSim.bind`).
  The per-view files switch `linter.unusedVariables` off: their statements have one shape for all views, so some carry a
  hypothesis their proof does not use (`htot`, `hrefl` where only `last()` compares values; the equations on derived fields in
  a `last_eq` that does not read them).
-/
namespace SF.GenEq
open Lean Meta Elab Tactic

/-- an innermost split candidate of `e`: the scrutinee to destruct, and whether it is an `if` condition -/
partial def innermost (e : Expr) : MetaM (Option (Expr × Bool)) := do
  let some c ← Lean.Meta.findSplit? e | return none
  if c.isIte || c.isDIte then
    let cond := c.getArg! 1 5
    match ← innermost cond with
    | some r => return some r
    | none => return some (cond, true)
  else
    let some info := isMatcherAppCore? (← getEnv) c | return none
    let args := c.getAppArgs
    let mut pick : Option Expr := none
    for i in [info.getFirstDiscrPos : info.getFirstDiscrPos + info.numDiscrs] do
      let d := args[i]!
      match ← innermost d with
      | some r => return some r
      | none =>
        -- a scrutinee that is already a constructor application needs no split
        let d' ← whnfR d
        unless (← isConstructorApp d') do
          if pick.isNone then pick := some d
    match pick with
    | some d => return some (d, false)
    | none => return none

/-- decide the conditions that a split has turned into closed terms (`if True`, `[] = []`, `1 ≤ (l ++ [a]).length`,
`(l ++ [a])[l.length]?`), so that they are not split again -/
macro "mground" "[" hs:Lean.Parser.Tactic.simpLemma,* "]" : tactic => `(tactic| simp only [if_true, if_false, eq_self, ne_eq, not_true_eq_false, not_false_eq_true,
  reduceCtorEq, Bool.not_true, Bool.not_false, Bool.false_eq_true, List.length_nil, List.length_cons, List.length_append,
  List.nil_append, List.tail_cons, List.getElem?_concat_length, Nat.zero_add, Nat.add_sub_cancel, Nat.le_add_left,
  Nat.lt_add_one_iff, Nat.reduceLeDiff, Nat.reduceSubDiff, $hs,*])

/-- one case split on an innermost scrutinee of the goal; the outcome rewrites every occurrence of the scrutinee -/
elab "msplit1" : tactic => withMainContext do
  let g ← getMainGoal
  let tgt ← instantiateMVars (← g.getType)
  let some (d, isIf) ← innermost tgt | throwError "msplit1: nothing to split"
  let dstx ← Term.exprToSyntax d
  if isIf then
    evalTactic (← `(tactic| by_cases hsplit : $dstx <;> mground [hsplit]))
  else if d.isFVar then
    evalTactic (← `(tactic| (cases $dstx:term <;> try mground [])))
  else
    evalTactic (← `(tactic| (generalize hsplit : $dstx = xsplit at *; cases xsplit <;> try mground [])))

/-- for every hypothesis `h : l₁ = l₂` between lists, add `congrArg List.length h` -/
elab "list_len_facts" : tactic => withMainContext do
  let lctx ← getLCtx
  for d in lctx do
    if d.isImplementationDetail then continue
    let t ← instantiateMVars d.type
    if let some (ty, _, _) := t.eq? then
      if (← whnfR ty).isAppOf ``List then
        let hstx ← Term.exprToSyntax d.toExpr
        evalTactic (← `(tactic| have := congrArg List.length $hstx))

/-- so that a `head?` is split as a case distinction on the list, like the model's `match` -/
theorem head?_match {α : Type} (l : List α) : l.head? = (match l with | [] => none | x :: _ => some x) := by
  cases l <;> rfl

end SF.GenEq

/-- unfold the `Except` plumbing and phrase emptiness tests and negated Boolean tests the same way on both sides -/
macro "munfold" : tactic => `(tactic| simp only [bind, Except.bind, Except.map, pure, Except.pure, throw, throwThe,
  MonadExceptOf.throw, Functor.map, SF.popFront, SF.unwrap, SF.front, SF.back, SF.getIdx, SF.usub, SF.assertFinite, SF.GenEq.head?_match,
  List.isEmpty_iff, Bool.not_eq_true'] at *)

macro "splitall" : tactic => `(tactic| repeat (any_goals msplit1))

/-- arithmetic on list lengths, every equation between lists in the context contributing the equation of its lengths -/
macro "len_omega" : tactic => `(tactic|
  (list_len_facts; (try simp only [List.length_append, List.length_cons, List.length_nil, List.length_tail] at *); omega))

/-- a leaf of the joint control flow.  Both sides ended in the same state or the same panic: `rfl`, componentwise where the
goal is the conjunction of a `StepSim` leaf (a component may be an invariant about lengths: `len_omega`).  Otherwise the
decisions taken on the way are contradictory, or the two sides are equal only by the hypotheses on derived fields: `simp_all` -/
macro "gen_fin" : tactic => `(tactic| first
  | rfl
  | ((repeat' constructor) <;> first | rfl | len_omega)
  | (simp_all; done))

/-- close a tie obligation: unfold the plumbing, split every innermost scrutinee, close the leaves -/
macro "gen_tie" : tactic => `(tactic| ((try munfold); splitall; all_goals gen_fin))

/-- step over the commands both programs of a `StepSim` run first, without looking at what follows them.  The value a command
returned is forgotten (what follows is related for EVERY outcome): rewrite a command whose value matters (`usub_ok`) first. -/
macro "lockstep" : tactic => `(tactic| repeat (refine SF.GenEq.StepSim.bind fun _ => ?_))

/-- a `StepSim` obligation of a unary view, its binds associated to the right first.  The head of `update` is the same text on
both sides and is stepped over:
`assertFinite`, the child's `update`, the child's `last()` with answer `o`; then `let Some(val) = o else { return }` is decided
(`cases o`; `simp only []` reduces the `match` on the constructor) and, for `some val`, `assertFinite val` stepped over.  What
follows is left to `gen_tie`, `StepSim` unfolded into the leaf's two obligations. -/
macro "gen_sim" : tactic => `(tactic|
  ((try simp only [bind_assoc]); lockstep; rename_i o; cases o with
    | none => simp only [SF.GenEq.StepSim]; gen_tie
    | some val => simp only []; lockstep; simp only [SF.GenEq.StepSim]; gen_tie))
