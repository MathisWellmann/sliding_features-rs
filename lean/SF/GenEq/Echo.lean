import SF.Gen.Echo
import SF.Model.Pure
import SF.GenEq.Tactic
set_option linter.unusedSectionVars false
set_option linter.unusedVariables false
/-! Translator tie for `Echo` (src/pure_functions/echo.rs): the view generated from the Rust text = the model's `echoV`,
for every child view: same answers and same panics on every input.  (Table-driven: tools/mk_geneq.py.) -/
namespace SF.GenEq.Echo
open SF SF.Gen.Echo
variable {α : Type} [Add α] [Sub α] [Mul α] [Div α] [Neg α] [NatCast α]
  [LT α] [DecidableLT α] [LE α] [DecidableLE α] [BEq α] [FloatLike α] [Transc α]

def s0   : State α := { out := none }
theorem new_ok    : (new : M (State α)) = .ok (s0 : State α) := by
  rfl

@[simp] def abs  (s : State α) : Option α := s.out

theorem upd_eq   (s : State α) (x : α)   :
    (update  s x).map (abs ) = (echoV).upd (abs  s) x := by
  simp only [update]; gen_tie
theorem upd_cfg  (s s' : State α) (x : α)  : update  s x = .ok s' → True :=
  fun _ => trivial
theorem last_eq   (s : State α)   : last  s = (echoV).last (abs  s) := by
  rfl

def sim    : Sim (mkView (s0 : State α) (update ) (last )) (echoV) where
  Cfg s := True
  abs := abs
  init_cfg := trivial
  init_abs := rfl
  upd s x h := upd_eq  s x
  upd_cfg _ _ _ _ _ := trivial
  last s h := last_eq  s

/-- the Rust text of `Echo`, as translated, and the model agree on every input: same answers, same panics -/
theorem tie    (xs : List α) :
    (mkView (s0 : State α) (update ) (last )).trace (s0 : State α) xs = (echoV).trace (echoV).init xs :=
  (sim (α := α)).trace_eq xs
end SF.GenEq.Echo
