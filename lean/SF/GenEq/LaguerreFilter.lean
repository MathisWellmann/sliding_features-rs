import SF.Gen.LaguerreFilter
import SF.Model.Ehlers
import SF.GenEq.Tactic
set_option linter.unusedSectionVars false
set_option linter.unusedVariables false
/-! Translator tie for `LaguerreFilter` (src/sliding_windows/laguerre_filter.rs): the view generated from the Rust text = the model's `wrap A (lagfCore g)`,
for every child view: same answers and same panics on every input.  (Table-driven: tools/mk_geneq.py.) -/
namespace SF.GenEq.LaguerreFilter
open SF SF.Gen.LaguerreFilter
variable {α : Type} [Add α] [Sub α] [Mul α] [Div α] [Neg α] [NatCast α]
  [LT α] [DecidableLT α] [LE α] [DecidableLE α] [BEq α] [FloatLike α] [Transc α]

def s0 (A : View α) (g : α) : State α A.σ := { view := A.init, gamma := g, l0s := [], l1s := [], l2s := [], l3s := [], filts := [] }
theorem new_ok (A : View α) (g : α)  : new A g = .ok (s0 A g) := by
  rfl

@[simp] def abs (A : View α) (s : State α A.σ) : A.σ × LagfState α := (s.view, { l0s := s.l0s, l1s := s.l1s, l2s := s.l2s, l3s := s.l3s, filts := s.filts })

theorem upd_sim (A : View α)  (s : State α A.σ) (x : α) (hi0 : s.l1s.length = s.l0s.length) (hi1 : s.l2s.length = s.l0s.length) (hi2 : s.l3s.length = s.l0s.length) :
    StepSim (abs A) (fun s' => s'.gamma = s.gamma ∧ s'.l1s.length = s'.l0s.length ∧ s'.l2s.length = s'.l0s.length ∧ s'.l3s.length = s'.l0s.length) (update A s x) ((wrap A (lagfCore s.gamma)).upd (abs A s) x) := by
  simp only [update, lagfCore, fromEnd, abs, bind_assoc]
  lockstep
  rename_i o
  cases o with
  | none => simp only [StepSim]; gen_tie
  | some v =>
    simp only []
    lockstep
    -- the first-value test, which the two texts phrase differently (`l0s = []` / `l0s.isEmpty`)
    by_cases h : s.l0s = []
    · simp only [h, List.isEmpty_nil, if_true, pure_bind]
      simp only [StepSim]; gen_tie
    · simp only [h, List.isEmpty_iff, if_false, bind_assoc, pure_bind]
      -- both read their deques in the same order (14 reads from the end): stepped over together
      lockstep
      -- the Rust text trims all four ladder vectors by the first one's length, the model each by its own: one test under hi0-hi2
      simp only [List.length_append, List.length_cons, List.length_nil, hi0, hi1, hi2]
      simp only [StepSim]; gen_tie
theorem upd_eq (A : View α)  (s : State α A.σ) (x : α) (hi0 : s.l1s.length = s.l0s.length) (hi1 : s.l2s.length = s.l0s.length) (hi2 : s.l3s.length = s.l0s.length)  :
    (update A s x).map (abs A) = (wrap A (lagfCore s.gamma)).upd (abs A s) x :=
  (upd_sim A s x hi0 hi1 hi2).map_eq
theorem upd_cfg (A : View α) (s s' : State α A.σ) (x : α) (hi0 : s.l1s.length = s.l0s.length) (hi1 : s.l2s.length = s.l0s.length) (hi2 : s.l3s.length = s.l0s.length) : update A s x = .ok s' → s'.gamma = s.gamma ∧ s'.l1s.length = s'.l0s.length ∧ s'.l2s.length = s'.l0s.length ∧ s'.l3s.length = s'.l0s.length :=
  (upd_sim A s x hi0 hi1 hi2).post
theorem last_eq (A : View α)  (s : State α A.σ) (hi0 : s.l1s.length = s.l0s.length) (hi1 : s.l2s.length = s.l0s.length) (hi2 : s.l3s.length = s.l0s.length)  : last A s = (wrap A (lagfCore s.gamma)).last (abs A s) := by
  simp only [last, lagfCore, fromEnd, abs]; gen_tie

def sim (A : View α) (g : α)  : Sim (mkView (s0 A g) (update A) (last A)) (wrap A (lagfCore g)) where
  Cfg s := s.gamma = g ∧ s.l1s.length = s.l0s.length ∧ s.l2s.length = s.l0s.length ∧ s.l3s.length = s.l0s.length
  abs := abs A
  init_cfg := ⟨rfl, rfl, rfl, rfl⟩
  init_abs := rfl
  upd s x h := h.1 ▸ upd_eq A s x  h.2.1 h.2.2.1 h.2.2.2
  upd_cfg s x s' h e := ⟨(upd_cfg A s s' x h.2.1 h.2.2.1 h.2.2.2 e).1.trans h.1, (upd_cfg A s s' x h.2.1 h.2.2.1 h.2.2.2 e).2.1, (upd_cfg A s s' x h.2.1 h.2.2.1 h.2.2.2 e).2.2.1, (upd_cfg A s s' x h.2.1 h.2.2.1 h.2.2.2 e).2.2.2⟩
  last s h := h.1 ▸ last_eq A s  h.2.1 h.2.2.1 h.2.2.2

/-- the Rust text of `LaguerreFilter`, as translated, and the model agree on every input: same answers, same panics -/
theorem tie (A : View α) (g : α)  (xs : List α) :
    (mkView (s0 A g) (update A) (last A)).trace (s0 A g) xs = (wrap A (lagfCore g)).trace (wrap A (lagfCore g)).init xs :=
  (sim A g ).trace_eq xs
end SF.GenEq.LaguerreFilter
