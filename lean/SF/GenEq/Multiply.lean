import SF.Gen.Multiply
import SF.Model.Pure
import SF.GenEq.Tactic
set_option linter.unusedSectionVars false
set_option linter.unusedVariables false
/-! Translator tie for `Multiply` (src/pure_functions/multiply.rs): the view generated from the Rust text = the model's `binop mulF A B`,
for every child view: same answers and same panics on every input.  (Table-driven: tools/mk_geneq.py.) -/
namespace SF.GenEq.Multiply
open SF SF.Gen.Multiply
variable {α : Type} [Add α] [Sub α] [Mul α] [Div α] [Neg α] [NatCast α]
  [LT α] [DecidableLT α] [LE α] [DecidableLE α] [BEq α] [FloatLike α] [Transc α]

def s0 (A : View α) (B : View α)  : State α A.σ B.σ := { a := A.init, b := B.init }
theorem new_ok (A : View α) (B : View α)   : new A B  = .ok (s0 A B ) := by
  rfl

@[simp] def abs (A : View α) (B : View α) (s : State α A.σ B.σ) : A.σ × B.σ := (s.a, s.b)

theorem upd_eq (A : View α) (B : View α)  (s : State α A.σ B.σ) (x : α)   :
    (update A B s x).map (abs A B) = (binop mulF A B).upd (abs A B s) x := by
  simp only [update, abs]; gen_tie
theorem upd_cfg (A : View α) (B : View α) (s s' : State α A.σ B.σ) (x : α)  : update A B s x = .ok s' → True :=
  fun _ => trivial
theorem last_eq (A : View α) (B : View α)  (s : State α A.σ B.σ)   : last A B s = (binop mulF A B).last (abs A B s) := by
  simp only [last, mulF, abs]; gen_tie

def sim (A : View α) (B : View α)   : Sim (mkView (s0 A B ) (update A B) (last A B)) (binop mulF A B) where
  Cfg s := True
  abs := abs A B
  init_cfg := trivial
  init_abs := rfl
  upd s x h := upd_eq A B s x
  upd_cfg _ _ _ _ _ := trivial
  last s h := last_eq A B s

/-- the Rust text of `Multiply`, as translated, and the model agree on every input: same answers, same panics -/
theorem tie (A : View α) (B : View α)   (xs : List α) :
    (mkView (s0 A B ) (update A B) (last A B)).trace (s0 A B ) xs = (binop mulF A B).trace (binop mulF A B).init xs :=
  (sim A B  ).trace_eq xs
end SF.GenEq.Multiply
